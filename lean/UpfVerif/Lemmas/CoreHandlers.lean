import UpfVerif.Lemmas.CoreDP
import UpfVerif.Lemmas.CoreEmit
/-
Handler-level facts: what a request handler can output (driver calls, then at most one response to the requester
with the request's sequence number), and what it can change.
-/
namespace UpfVerif.Core

def IsDp (o : Out) : Prop := ∃ c a, o = Out.dp c a

theorem Tagged.dp {x : Seid} {S : List (Op × Kind)} {c c' : Ctx} (h : Tagged x S c c') : Added IsDp c c' :=
  Added.mono h fun _ ⟨call, a, he, _⟩ => ⟨call, a, he⟩

/-! ### `sendRsp` touches the receive transactions and the outputs only -/

section
variable (st : State) (addr : String) (m : Msg) (c : Ctx)

theorem sendRsp_frame : (st.sendRsp addr m c).1 = { st with rx := (st.sendRsp addr m c).1.rx } := by
  unfold State.sendRsp; split <;> rfl

theorem sendRsp_lnode : (st.sendRsp addr m c).1.lnode = st.lnode := by rw [sendRsp_frame]
theorem sendRsp_nodes : (st.sendRsp addr m c).1.nodes = st.nodes := by rw [sendRsp_frame]
theorem sendRsp_rnodes : (st.sendRsp addr m c).1.rnodes = st.rnodes := by rw [sendRsp_frame]
theorem sendRsp_tx : (st.sendRsp addr m c).1.tx = st.tx := by rw [sendRsp_frame]
theorem sendRsp_txSeq : (st.sendRsp addr m c).1.txSeq = st.txSeq := by rw [sendRsp_frame]

theorem sendRsp_rx :
    (st.sendRsp addr m c).1.rx = st.rx ∨ (st.sendRsp addr m c).1.rx = alSet st.rx (addr, m.seq) { rsp := some m } := by
  unfold State.sendRsp
  cases alGet st.rx (addr, m.seq) <;> simp

theorem sendRsp_outs : (st.sendRsp addr m c).2.outs = c.outs ∨ (st.sendRsp addr m c).2.outs = c.outs ++ [Out.send addr m] := by
  unfold State.sendRsp
  cases alGet st.rx (addr, m.seq) <;> simp [Ctx.emit]

theorem sendRsp_last (rx : Rx) (h : alGet st.rx (addr, m.seq) = some rx) :
    (st.sendRsp addr m c).2.outs.getLast? = some (Out.send addr m) := by
  simp [State.sendRsp, h, Ctx.emit]

theorem mem_sendRsp_outs (o : Out) (h : o ∈ (st.sendRsp addr m c).2.outs) : o ∈ c.outs ∨ o = Out.send addr m := by
  rcases sendRsp_outs st addr m c with e | e <;> rw [e] at h
  · exact Or.inl h
  · exact (List.mem_append.mp h).imp_right List.mem_singleton.mp

end

theorem handleMod_rsp (st : State) (addr : String) (seq : BitVec 24) (r : ModReq) (env : Env) (c : Ctx) (m : Msg)
    (h : Out.send addr m ∈ (handleMod st addr seq r env c).2.outs) (hc : ∀ to m', Out.send to m' ∉ c.outs) :
    m.kind = .modRsp ∧ m.seq = seq ∧
    (match st.lnode.lookup r.seid with
     | none => m.seid = some 0 ∧ m.cause = some causeNoContext
     | some s0 => m.seid = some s0.remoteID ∧ m.cause = some causeAccepted) := by
  unfold handleMod at h
  split at h
  · rename_i hl
    rw [hl]
    rcases mem_sendRsp_outs _ _ _ _ _ h with h | h
    · exact absurd h (hc _ _)
    · cases h; exact ⟨rfl, rfl, rfl, rfl⟩
  · rename_i s0 hl
    rw [hl]
    simp only [] at h
    have he := runStages_eff (modStages r) (modStages_eff r) s0 c []
    rcases mem_sendRsp_outs _ _ _ _ _ h with h | h
    · -- the rule loops only call the driver
      rcases he.tagged.mem h with h | ⟨_, _, h, _⟩
      · exact absurd h (hc _ _)
      · cases h
    · rw [(Out.send.inj h).2]
      exact ⟨rfl, rfl, by rw [emitUsars_frame]; exact congrArg some he.ids.2.1, rfl⟩

theorem handleMod_lnode (st : State) (addr : String) (seq : BitVec 24) (r : ModReq) (env : Env) (c : Ctx) (s0 : Sess)
    (h : st.lnode.lookup r.seid = some s0) :
    ∃ s' : Sess, s'.localID = s0.localID ∧ s'.remoteID = s0.remoteID ∧ s'.rnode = s0.rnode ∧
      (handleMod st addr seq r env c).1.lnode = st.lnode.setSess s' := by
  unfold handleMod
  simp only [h]
  obtain ⟨hid, hrid, hnode⟩ := (runStages_eff (modStages r) (modStages_eff r) s0 c []).ids
  refine ⟨(emitUsars (runStages (modStages r) s0 c []).1 (runStages (modStages r) s0 c []).2.2 0 true).1,
    by rw [emitUsars_frame]; exact hid, by rw [emitUsars_frame]; exact hrid, by rw [emitUsars_frame]; exact hnode, ?_⟩
  rw [sendRsp_lnode]
  simp [State.setSess, State.takeover_lnode]

theorem resetNode_keep (P : State → Ctx → Prop) (h : Nat) (env : Env)
    (hd : ∀ st c x, P st c → P (st.deleteSess h x env c).1 (st.deleteSess h x env c).2.1)
    (hm : ∀ st c, P st c → P (st.modNode h fun n => { n with sess := [] }) c)
    (st : State) (c : Ctx) (h0 : P st c) : P (st.resetNode h env c).1 (st.resetNode h env c).2 :=
  hm _ _ (foldl_keep _ (fun a => P a.1 a.2) (fun a x ha => hd a.1 a.2 x ha) _ (st, c) h0)

/-! ### the shape of a request handler

Some work that only calls the driver and leaves the transaction tables alone (`Work`), then at most one `sendRspTo` of a
message carrying the request's sequence number.  What a handler outputs (C08 `rsp_addr_seq`) and what it does to the receive
and the transmit transactions (`handleReq_rx`, `handleReq_tx`) are three readings of it. -/

/-- everything but the session table, the node arena and the node-id map is untouched -/
def SameTrans (a b : State) : Prop := b.rx = a.rx ∧ b.tx = a.tx ∧ b.txSeq = a.txSeq ∧ b.cfg = a.cfg

theorem SameTrans.refl (a : State) : SameTrans a a := ⟨rfl, rfl, rfl, rfl⟩
theorem SameTrans.trans {a b c : State} (h1 : SameTrans a b) (h2 : SameTrans b c) : SameTrans a c :=
  ⟨h2.1.trans h1.1, h2.2.1.trans h1.2.1, h2.2.2.1.trans h1.2.2.1, h2.2.2.2.trans h1.2.2.2⟩

theorem setSess_same (st : State) (s : Sess) : SameTrans st (st.setSess s) := ⟨rfl, rfl, rfl, rfl⟩
theorem updateNodeID_same (st : State) (h : Nat) (n : NodeId) : SameTrans st (st.updateNodeID h n) := ⟨rfl, rfl, rfl, rfl⟩

theorem takeover_same (st : State) (o : Option NodeId) (h : Nat) : SameTrans st (st.takeover o h) := by
  cases o
  · exact SameTrans.refl st
  · exact updateNodeID_same st h _

def Work (st : State) (c : Ctx) (st' : State) (c' : Ctx) : Prop := SameTrans st st' ∧ Added IsDp c c'

theorem Work.refl (st : State) (c : Ctx) : Work st c st c := ⟨SameTrans.refl st, Added.refl _ c⟩
theorem Work.trans {a b c : State} {ca cb cc : Ctx} (h1 : Work a ca b cb) (h2 : Work b cb c cc) : Work a ca c cc :=
  ⟨h1.1.trans h2.1, h1.2.trans h2.2⟩

theorem deleteSess_work (st : State) (h : Nat) (x : Seid) (env : Env) (c : Ctx) :
    Work st c (st.deleteSess h x env c).1 (st.deleteSess h x env c).2.1 := by
  unfold State.deleteSess
  simp only []
  split
  · exact Work.refl st c
  · split
    · exact ⟨⟨rfl, rfl, rfl, rfl⟩, Added.refl _ c⟩
    · rename_i s _
      have hk := (close_eff s c).tagged.dp
      -- (`generalize`: matching the goal against `s.close c` as it stands makes the unifier unfold `Close`)
      generalize s.close c = R at hk
      exact ⟨⟨rfl, rfl, rfl, rfl⟩, hk⟩

theorem resetNode_work (st : State) (h : Nat) (env : Env) (c : Ctx) : Work st c (st.resetNode h env c).1 (st.resetNode h env c).2 :=
  resetNode_keep (Work st c) h env (fun st' c' x hp => hp.trans (deleteSess_work st' h x env c'))
    (fun _ _ hp => hp.trans ⟨⟨rfl, rfl, rfl, rfl⟩, Added.refl _ _⟩) st c (Work.refl st c)

def Answers (addr : String) (seq : BitVec 24) (st : State) (c : Ctx) (r : State × Ctx) : Prop :=
  ∃ st1 c1, Work st c st1 c1 ∧ (r = (st1, c1) ∨ ∃ m : Msg, m.seq = seq ∧ r = st1.sendRsp addr m c1)

theorem answers_none (addr : String) (seq : BitVec 24) (st : State) (c : Ctx) : Answers addr seq st c (st, c) :=
  ⟨st, c, Work.refl st c, Or.inl rfl⟩

theorem answers_rsp (addr : String) (seq : BitVec 24) {st st1 : State} {c c1 : Ctx} (m : Msg) (hm : m.seq = seq)
    (hw : Work st c st1 c1) : Answers addr seq st c (st1.sendRsp addr m c1) :=
  ⟨st1, c1, hw, Or.inr ⟨m, hm, rfl⟩⟩

theorem handleReq_answers (st : State) (addr : String) (seq : BitVec 24) (r : Req) (env : Env) (c : Ctx) :
    Answers addr seq st c (handleReq st addr seq r env c) := by
  cases r with
  | heartbeat => exact answers_rsp addr seq _ rfl (Work.refl st c)
  | other => exact answers_none addr seq st c
  | assoc nid =>
    simp only [handleReq, handleAssoc]
    split
    · exact answers_none addr seq st c
    · split
      · rename_i h _
        have hw := resetNode_work st h env c
        generalize st.resetNode h env c = R at hw   -- (as in `deleteSess_work`)
        exact answers_rsp addr seq _ rfl (hw.trans ⟨⟨rfl, rfl, rfl, rfl⟩, Added.refl _ _⟩)
      · exact answers_rsp addr seq _ rfl ⟨⟨rfl, rfl, rfl, rfl⟩, Added.refl _ c⟩
  | est e =>
    simp only [handleReq, handleEst]
    split
    · exact answers_none addr seq st c
    · split
      · exact answers_none addr seq st c
      · split
        · exact answers_none addr seq st c
        · exact answers_rsp addr seq _ rfl ⟨⟨rfl, rfl, rfl, rfl⟩, (runStages_eff _ (estStages_eff e) _ c []).tagged.dp⟩
  | mod m =>
    simp only [handleReq, handleMod]
    split
    · exact answers_rsp addr seq _ rfl (Work.refl st c)
    · rename_i s0 _
      exact answers_rsp addr seq _ rfl
        ⟨(takeover_same st m.nodeID s0.rnode).trans (setSess_same _ _), (runStages_eff _ (modStages_eff m) s0 c []).tagged.dp⟩
  | del x =>
    simp only [handleReq, handleDel]
    split
    · exact answers_rsp addr seq _ rfl (Work.refl st c)
    · rename_i s0 _
      exact answers_rsp addr seq _ rfl (deleteSess_work st s0.rnode x env c)

theorem handleReq_rx (st : State) (addr : String) (seq : BitVec 24) (r : Req) (env : Env) (c : Ctx) :
    (handleReq st addr seq r env c).1.rx = st.rx ∨
      ∃ m : Msg, m.seq = seq ∧ (handleReq st addr seq r env c).1.rx = alSet st.rx (addr, seq) { rsp := some m } := by
  obtain ⟨st1, c1, ⟨hs, _⟩, e | ⟨m, hm, e⟩⟩ := handleReq_answers st addr seq r env c
  · rw [e]; exact Or.inl hs.1
  · rw [e]
    rcases sendRsp_rx st1 addr m c1 with e' | e'
    · exact Or.inl (e'.trans hs.1)
    · exact Or.inr ⟨m, hm, by rw [e', hs.1, hm]⟩

theorem handleReq_tx (st : State) (addr : String) (seq : BitVec 24) (r : Req) (env : Env) (c : Ctx) :
    (handleReq st addr seq r env c).1.tx = st.tx ∧ (handleReq st addr seq r env c).1.txSeq = st.txSeq := by
  obtain ⟨st1, c1, ⟨hs, _⟩, e | ⟨m, _, e⟩⟩ := handleReq_answers st addr seq r env c
  · rw [e]; exact ⟨hs.2.1, hs.2.2.1⟩
  · rw [e]
    exact ⟨(sendRsp_tx ..).trans hs.2.1, (sendRsp_txSeq ..).trans hs.2.2.1⟩

theorem sendReq_rx (st : State) (addr : String) (m : Msg) (c : Ctx) : (st.sendReq addr m c).1.rx = st.rx := rfl

theorem serveLoop_keep (P : State → Ctx → Prop) (x : Seid) (dest : String)
    (hpush : ∀ st c pdr act pkt, P st c → P (st.pushPkt x pdr act pkt) c)
    (hsend : ∀ st c m, P st c → P (st.sendReq dest m c).1 (st.sendReq dest m c).2) :
    ∀ (items : List RepItem) (st : State) (c : Ctx) (us : List Report), P st c →
      P (serveLoop x dest items st c us).1 (serveLoop x dest items st c us).2.1
  | [], _, _, _, h => h
  | .usar r :: rest, st, c, us, h => by
    unfold serveLoop; exact serveLoop_keep P x dest hpush hsend rest st c _ h
  | .dldr pdr act pkt :: rest, st, c, us, h => by
    unfold serveLoop
    simp only []
    have h1 := hpush st c pdr act pkt h
    split
    · exact h1
    · split
      · exact serveLoop_keep P x dest hpush hsend rest _ _ us (hsend _ _ _ h1)
      · exact serveLoop_keep P x dest hpush hsend rest _ _ us h1

/-- `hsend` need hold only for the destination worked out for the session's node on entry: no Session Report Request goes
    anywhere else -/
theorem serveReport_keep (P : State → Ctx → Prop) (x : Seid)
    (hpush : ∀ st c pdr act pkt, P st c → P (st.pushPkt x pdr act pkt) c)
    (hset : ∀ st c s rs, st.lnode.lookup x = some s → P st c → P (st.setSess (emitUsars s rs 0 false).1) c)
    (st : State) (hsend : ∀ s0 dest, st.lnode.lookup x = some s0 → reportDest (st.nodes.getD s0.rnode default) = some dest →
      ∀ st' c m, P st' c → P (st'.sendReq dest m c).1 (st'.sendReq dest m c).2)
    (items : List RepItem) (c : Ctx) (h : P st c) :
    P (serveReport st x items c).1 (serveReport st x items c).2 := by
  unfold serveReport
  split
  · exact h
  · split
    · exact h
    · rename_i s0 hs0 _ dest hd
      have hsend := hsend s0 dest hs0 hd
      have hl := serveLoop_keep P x dest hpush hsend items st c [] h
      generalize serveLoop x dest items st c [] = R at hl
      obtain ⟨st1, c1, o⟩ := R
      cases o with
      | none => exact hl
      | some us =>
        simp only [] at hl ⊢
        split
        · exact hl
        · split
          · exact hl
          · rename_i s hs; exact hsend _ _ _ (hset st1 c1 s us hs hl)

theorem pushPkt_rx (st : State) (x : Seid) (pdr : Nat) (act : BitVec 16) (pkt : Bytes) : (st.pushPkt x pdr act pkt).rx = st.rx := by
  unfold State.pushPkt; split
  · split <;> rfl
  · rfl

theorem serveReport_rx (st : State) (x : Seid) (items : List RepItem) (c : Ctx) :
    (serveReport st x items c).1.rx = st.rx :=
  serveReport_keep (fun st' _ => st'.rx = st.rx) x (fun st' _ pdr act pkt h => (pushPkt_rx st' x pdr act pkt).trans h)
    (fun _ _ _ _ _ h => h) st (fun _ _ _ _ _ _ _ h => h) items c rfl

end UpfVerif.Core
