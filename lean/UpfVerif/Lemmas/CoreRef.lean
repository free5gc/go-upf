import UpfVerif.Model.Core
import UpfVerif.Lemmas.Core
import UpfVerif.Lemmas.CoreLoop
import UpfVerif.Lemmas.CoreCalls
import UpfVerif.Lemmas.CoreMeth
/-
Reference counting of URRs by PDRs (C12): `refPdrNum` of every URR the session knows equals the number of the session's
PDRs whose related-URR set names it — as an invariant of the `Sess` methods, and what the dissociation loop does to it
whatever order the map iteration takes.
-/
namespace UpfVerif.Core

/-- the rule operations of a session's lifetime that touch PDR / URR bookkeeping -/
inductive SOp
  | createURR (ie : RuleIE) | updateURR (ie : RuleIE) | removeURR (ie : RuleIE) | queryURR (ie : RuleIE)
  | createPDR (ie : RuleIE) | updatePDR (ie : RuleIE) | removePDR (ie : RuleIE)

def SOp.apply (s : Sess) (c : Ctx) : SOp → Sess × Ctx
  | .createURR ie => s.createURR ie c
  | .updateURR ie => ((s.updateURR ie c).1, (s.updateURR ie c).2.1)
  | .removeURR ie => ((s.removeURR ie c).1, (s.removeURR ie c).2.1)
  | .queryURR ie => ((s.queryURR ie c).1, (s.queryURR ie c).2.1)
  | .createPDR ie => s.createPDR ie c
  | .updatePDR ie => ((s.updatePDR ie c).1, (s.updatePDR ie c).2.1)
  | .removePDR ie => ((s.removePDR ie c).1, (s.removePDR ie c).2.1)

def refOf (us : List (Nat × URRInfo)) (u : Nat) : Option Nat := (alGet us u).map (·.refPdrNum)

def refs (pdrs : List (Nat × List Nat)) (u : Nat) : Nat := cnt (fun us => us.contains u) pdrs

structure RefInv (s : Sess) : Prop where
  keys : (s.pdrs.map (·.1)).Nodup
  sets : ∀ p ∈ s.pdrs, p.2.Nodup
  count : ∀ u n, refOf s.urrs u = some n → n = refs s.pdrs u

theorem refOf_foldl_bumpRef (l : List Nat) (hl : l.Nodup) (us : List (Nat × URRInfo)) (v : Nat) :
    refOf (l.foldl bumpRef us) v = (refOf us v).map (· + if v ∈ l then 1 else 0) := by
  rw [refOf, refOf, alGet_foldl_bumpRef, List.Nodup.count hl, Option.map_map, Option.map_map]; rfl

theorem refOf_foldl_decRef (l : List Nat) (hl : l.Nodup) (us : List (Nat × URRInfo)) (v : Nat) :
    refOf (l.foldl (alMod · · URRInfo.decRef) us) v = (refOf us v).map (· - if v ∈ l then 1 else 0) := by
  unfold refOf
  rw [alGet_foldl_mod _ l hl]
  cases alGet us v with
  | none => rfl
  | some i => by_cases h : v ∈ l <;> simp [h, URRInfo.decRef]

def qcount (c : Ctx) (x : Seid) (u : Nat) : Nat :=
  (c.outs.filter fun o => match o with
    | .dp call _ => call.seid == x && call.op == .query && call.kind == .urr && call.id == u
    | _ => false).length

theorem qcount_call (c : Ctx) (call : DpCall) (x : Seid) (u : Nat) :
    qcount (c.call call).1 x u = qcount c x u +
      (if call.seid == x && call.op == .query && call.kind == .urr && call.id == u then 1 else 0) :=
  ocount_call _ c call

theorem qcount_disFold (l : List Nat) (hl : l.Nodup) (v : Nat) : ∀ (s : Sess) (c : Ctx) (rs : List Report),
    qcount (disFold s c rs l).2.1 s.localID v = qcount c s.localID v + (if v ∈ l ∧ refOf s.urrs v = some 1 then 1 else 0) := by
  induction l with
  | nil => intro s c rs; simp [disFold]
  | cons u l ih =>
    intro s c rs
    rw [List.nodup_cons] at hl
    rw [disFold, diassociate_eq]
    have := ih hl.2 { s with urrs := alMod s.urrs u URRInfo.decRef }
    simp only [refOf] at this ⊢
    rw [this]
    simp only [alGet_alMod]
    -- `v` occurs in `l` at most once: at the head (a query iff its count stands at 1), or in the tail, its count untouched by the head
    by_cases hv : v = u
    · subst hv
      by_cases h1 : (alGet s.urrs v).map (·.refPdrNum) = some 1
      · simp [h1, hl.1, qcount_call]
      · simp [h1, hl.1]
    · have hc : ∀ c' : Ctx, qcount (if (alGet s.urrs u).map (·.refPdrNum) = some 1 then
          (c'.call { seid := s.localID, op := .query, kind := .urr, id := u }).1 else c') s.localID v = qcount c' s.localID v := by
        intro c'; split
        · rw [qcount_call]; simp [Ne.symm hv]
        · rfl
      rw [hc]
      simp [hv]

theorem diassociateAll_ref (s : Sess) (us : List Nat) (hn : us.Nodup) (c : Ctx) :
    (s.diassociateAll us c).1.pdrs = s.pdrs ∧ (s.diassociateAll us c).1.localID = s.localID ∧
    (∀ v, refOf (s.diassociateAll us c).1.urrs v = (refOf s.urrs v).map (· - if v ∈ us then 1 else 0)) ∧
    (∀ v, qcount (s.diassociateAll us c).2.1 s.localID v = qcount c s.localID v +
      (if v ∈ us ∧ refOf s.urrs v = some 1 then 1 else 0)) := by
  obtain ⟨order, hp, he⟩ := diassociateAll_perm s us c
  have ho : order.Nodup := hp.nodup_iff.mpr hn
  rw [he]
  refine ⟨by rw [disFold_sess], by rw [disFold_sess], fun v => ?_, fun v => ?_⟩
  · rw [disFold_sess, refOf_foldl_decRef _ ho]; simp only [hp.mem_iff]
  · rw [qcount_disFold _ ho]; simp only [hp.mem_iff]

theorem refs_alSet (pdrs : List (Nat × List Nat)) (k : Nat) (new : List Nat) (u : Nat) :
    refs (alSet pdrs k new) u + hit (fun us => us.contains u) (alGet pdrs k) = refs pdrs u + (if u ∈ new then 1 else 0) := by
  have := cnt_alSet (fun us : List Nat => us.contains u) pdrs k new
  simpa [refs] using this

theorem refs_alDel (pdrs : List (Nat × List Nat)) (k : Nat) (u : Nat) (hn : (pdrs.map (·.1)).Nodup) :
    refs (alDel pdrs k) u + hit (fun us => us.contains u) (alGet pdrs k) = refs pdrs u :=
  cnt_alDel (fun us : List Nat => us.contains u) pdrs k hn

theorem hit_some (u : Nat) (us : List Nat) : hit (fun l : List Nat => l.contains u) (some us) = if u ∈ us then 1 else 0 := by
  simp [hit]

theorem refs_pos (pdrs : List (Nat × List Nat)) (k : Nat) (us : List Nat) (u : Nat)
    (hg : alGet pdrs k = some us) (hu : u ∈ us) : 0 < refs pdrs u := by
  have hm := alGet_mem pdrs k us hg
  unfold refs cnt
  apply List.length_pos_of_mem (a := (k, us))
  simp [hm, hu]

theorem sets_alSet (pdrs : List (Nat × List Nat)) (k : Nat) (new : List Nat) (hs : ∀ p ∈ pdrs, p.2.Nodup) (hn : new.Nodup) :
    ∀ p ∈ alSet pdrs k new, p.2.Nodup := by
  intro p hp
  rcases mem_alSet_val _ _ _ _ hp with e | e
  · rw [e]; exact hn
  · exact hs p e

theorem add_ite_diff {a b : Prop} [Decidable a] [Decidable b] {x y : Nat}
    (h : x + (if a then 1 else 0) = y + (if b then 1 else 0)) :
    x + (if a ∧ ¬ b then 1 else 0) = y + (if b ∧ ¬ a then 1 else 0) := by
  by_cases ha : a <;> by_cases hb : b <;> simpa [ha, hb] using h

/-- the one place where counts and referring PDRs are compared; Create / Update / Remove PDR are instances (`dec`: the URRs
    dissociated, `inc`: the URRs newly named) -/
theorem RefInv.move {s s' : Sess} (h : RefInv s) (dec inc : List Nat) (hd : dec.Nodup) (hi : inc.Nodup)
    (hk : (s'.pdrs.map (·.1)).Nodup) (hs : ∀ p ∈ s'.pdrs, p.2.Nodup)
    (hu : s'.urrs = inc.foldl bumpRef (dec.foldl (alMod · · URRInfo.decRef) s.urrs))
    (hr : ∀ u, refs s'.pdrs u + (if u ∈ dec then 1 else 0) = refs s.pdrs u + (if u ∈ inc then 1 else 0))
    (hpos : ∀ u ∈ dec, 0 < refs s.pdrs u) : RefInv s' := by
  refine ⟨hk, hs, fun u n hn => ?_⟩
  rw [hu, refOf_foldl_bumpRef _ hi, refOf_foldl_decRef _ hd] at hn
  cases h0 : refOf s.urrs u with
  | none => rw [h0] at hn; cases hn
  | some n0 =>
    rw [h0] at hn
    simp only [Option.map_some, Option.some.injEq] at hn
    have h1 := h.count u n0 h0
    have h2 := hr u
    -- the decrement is not cut off at 0: a URR that is dissociated is named by a PDR
    have h3 : (if u ∈ dec then 1 else 0) ≤ refs s.pdrs u := by
      split
      · exact hpos u ‹_›
      · exact Nat.zero_le _
    omega

theorem RefInv.mod {s : Sess} (h : RefInv s) (k : Nat) (f : URRInfo → URRInfo) (hf : ∀ i, (f i).refPdrNum = i.refPdrNum) :
    RefInv { s with urrs := alMod s.urrs k f } := by
  refine ⟨h.keys, h.sets, fun u n hn => h.count u n ?_⟩
  rw [← hn, refOf, refOf, alGet_alMod]
  cases alGet s.urrs u with
  | none => rfl
  | some i => by_cases hu : u = k <;> simp [hu, hf]

theorem createURR_ref (s : Sess) (ie : RuleIE) (c : Ctx) (h : RefInv s) : RefInv (s.createURR ie c).1 := by
  unfold Sess.createURR
  cases hid : ie.id with
  | none => exact h
  | some id =>
    refine ⟨h.keys, h.sets, fun u n hn => ?_⟩
    rw [refOf, alGet_alSet] at hn
    split at hn
    · -- the new entry: it starts with the number of PDRs that already name the URR
      rename_i hu
      cases hn
      rw [hu]; rfl
    · exact h.count u n hn

theorem createPDR_ref (s : Sess) (ie : RuleIE) (c : Ctx) (h : RefInv s) (hfresh : alGet s.pdrs (ie.id.getD 0) = none) :
    RefInv (s.createPDR ie c).1 := by
  refine h.move [] ie.urrs.eraseDups .nil (nodup_eraseDups _) (keys_alSet_nodup _ _ _ h.keys)
    (sets_alSet _ _ _ h.sets (nodup_eraseDups _)) rfl ?_ (fun _ hu => nomatch hu)
  intro u
  have := refs_alSet s.pdrs (ie.id.getD 0) ie.urrs.eraseDups u
  rw [hfresh] at this
  simpa [hit, Sess.createPDR] using this

theorem removePDR_ref (s : Sess) (ie : RuleIE) (c : Ctx) (h : RefInv s) : RefInv (s.removePDR ie c).1 := by
  rcases removePDR_sess s ie c with e | ⟨pdrid, us, order, _, hg, hp, e⟩
  · rw [e]; exact h
  · have hus : us.Nodup := h.sets (pdrid, us) (alGet_mem _ _ _ hg)
    rw [e]
    refine h.move order [] (hp.nodup_iff.mpr hus) .nil (keys_alDel_nodup _ _ h.keys)
      (fun p hp => h.sets p (List.mem_filter.mp hp).1) rfl ?_ ?_
    · intro u
      have := refs_alDel s.pdrs pdrid u h.keys
      rw [hg, hit_some] at this
      simpa [hp.mem_iff] using this
    · exact fun u hu => refs_pos s.pdrs pdrid us u hg (hp.mem_iff.mp hu)

theorem updatePDR_ref (s : Sess) (ie : RuleIE) (c : Ctx) (h : RefInv s) : RefInv (s.updatePDR ie c).1 := by
  rcases updatePDR_sess s ie c with e | ⟨old, order, hg, hp, e⟩
  · rw [e]; exact h
  · have hold : old.Nodup := h.sets (_, old) (alGet_mem _ _ _ hg)
    rw [e]
    refine h.move order _ (hp.nodup_iff.mpr (hold.sublist List.filter_sublist))
      ((nodup_eraseDups _).sublist List.filter_sublist) (keys_alSet_nodup _ _ _ h.keys)
      (sets_alSet _ _ _ h.sets (nodup_eraseDups _)) rfl ?_ ?_
    · intro u
      have := refs_alSet s.pdrs (ie.id.getD 0) ie.urrs.eraseDups u
      rw [hg, hit_some] at this
      -- a URR named before and after is neither dissociated nor counted anew: it drops out on both sides
      simpa only [hp.mem_iff, List.mem_filter, decide_eq_true_eq] using add_ite_diff this
    · exact fun u hu => refs_pos s.pdrs _ old u hg (List.mem_filter.mp (hp.mem_iff.mp hu)).1

theorem removeURR_ref (s : Sess) (ie : RuleIE) (c : Ctx) (h : RefInv s) : RefInv (s.removeURR ie c).1 := by
  rw [removeURR_sess]
  cases ie.id with
  | none => exact h
  | some id => exact h.mod id _ (fun _ => rfl)

theorem updateURR_ref (s : Sess) (ie : RuleIE) (c : Ctx) (h : RefInv s) : RefInv (s.updateURR ie c).1 := by
  rw [updateURR_sess]
  cases ie.id with
  | none => exact h
  | some id =>
    exact h.mod id _ fun i => (applyUpdate_frame i ie).2.2

theorem queryURR_ref (s : Sess) (ie : RuleIE) (c : Ctx) (h : RefInv s) : RefInv (s.queryURR ie c).1 := by
  rw [queryURR_sess]; exact h

theorem refOf_one_iff (s : Sess) (h : RefInv s) (v : Nat) :
    refOf s.urrs v = some 1 ↔ (alGet s.urrs v).isSome = true ∧ refs s.pdrs v = 1 := by
  cases hg : alGet s.urrs v with
  | none => simp [refOf, hg]
  | some info =>
    have hr : refOf s.urrs v = some info.refPdrNum := by rw [refOf, hg]; rfl
    rw [hr, h.count v _ hr]
    simp

theorem removePDR_queries (s : Sess) (ie : RuleIE) (c : Ctx) (h : RefInv s) (pdrid : Nat) (us : List Nat)
    (hid : ie.id = some pdrid) (hg : alGet s.pdrs pdrid = some us)
    (hok : (c.call { seid := s.localID, op := .remove, kind := .pdr, id := pdrid }).2.ok = true) (v : Nat) :
    qcount (s.removePDR ie c).2.1 s.localID v =
      qcount c s.localID v + (if v ∈ us ∧ refOf s.urrs v = some 1 then 1 else 0) := by
  simp only [removePDR_eq, hid, hg, hok, if_true]
  rw [(diassociateAll_ref { s with pdrs := alDel s.pdrs pdrid, q := alDel s.q pdrid } us
    (h.sets (pdrid, us) (alGet_mem _ _ _ hg)) _).2.2.2 v, qcount_call]
  simp

theorem updatePDR_queries (s : Sess) (ie : RuleIE) (c : Ctx) (h : RefInv s) (old : List Nat)
    (hg : alGet s.pdrs (ie.id.getD 0) = some old)
    (hok : (c.call { seid := s.localID, op := .update, kind := .pdr, id := ie.id.getD 0 }).2.ok = true) (v : Nat) :
    qcount (s.updatePDR ie c).2.1 s.localID v =
      qcount c s.localID v + (if (v ∈ old ∧ v ∉ ie.urrs.eraseDups) ∧ refOf s.urrs v = some 1 then 1 else 0) := by
  simp only [updatePDR_eq, hg, hok, if_true]
  rw [(diassociateAll_ref s (old.filter (· ∉ ie.urrs.eraseDups))
    ((h.sets (_, old) (alGet_mem _ _ _ hg)).sublist List.filter_sublist) _).2.2.2 v, qcount_call]
  simp [List.mem_filter]

end UpfVerif.Core
