import UpfVerif.Model.Core
/-
The loops of M-Core, once.  `rangeMap` walks a key set in an order the environment chooses; whatever the environment says, with
enough fuel the loop is a left fold over SOME permutation of its keys (`rangeMap_perm`), so an exact fact about a loop is a plain
list induction over that order, and a property kept by every call of the body is kept by the loop (`rangeMap_keep`; for the loops over
IE lists, which are `List.foldl`, that is `foldl_keep` of Lemmas/List); an invariant that speaks of the keys still to be visited
is `rangeMap_inv`.  `Sess.close` is one such loop (`closeK`) run for the five kinds of rule in turn (`close_eq`), and keeps whatever a
turn of that loop keeps (`close_keep`).
-/
namespace UpfVerif.Core

theorem rangeMap_keep {σ : Type} (x : Seid) (op : Op) (kind : Kind) (body : Nat → σ → Ctx → σ × Ctx)
    (P : σ → Ctx → Prop) (hb : ∀ k st c, P st c → P (body k st c).1 (body k st c).2) :
    ∀ fuel keys st c, P st c → P (rangeMap x op kind body fuel keys st c).1 (rangeMap x op kind body fuel keys st c).2
  | 0, _, _, _, h => h
  | fuel + 1, keys, st, c, h => by
    unfold rangeMap
    cases c.pick x op kind keys with
    | none => exact h
    | some k => exact rangeMap_keep x op kind body P hb fuel _ _ _ (hb k st c h)

theorem pick_cases (c : Ctx) (x : Seid) (op : Op) (K : Kind) (keys : List Nat) :
    (keys = [] ∧ c.pick x op K keys = none) ∨ ∃ k ∈ keys, c.pick x op K keys = some k := by
  cases keys with
  | nil => exact Or.inl ⟨rfl, rfl⟩
  | cons k0 rest =>
    refine Or.inr ?_
    simp only [Ctx.pick]
    split
    · split
      · rename_i h
        simp only [Bool.and_eq_true, decide_eq_true_eq] at h
        exact ⟨_, h.2, rfl⟩
      · exact ⟨k0, List.mem_cons_self, rfl⟩
    · exact ⟨k0, List.mem_cons_self, rfl⟩

theorem rangeMap_perm {σ : Type} (x : Seid) (op : Op) (kind : Kind) (body : Nat → σ → Ctx → σ × Ctx) :
    ∀ fuel keys st c, keys.length ≤ fuel → ∃ order : List Nat, order.Perm keys ∧
      rangeMap x op kind body fuel keys st c = order.foldl (fun acc k => body k acc.1 acc.2) (st, c)
  | 0, keys, st, c, h => by
    have : keys = [] := List.length_eq_zero_iff.mp (Nat.le_zero.mp h)
    subst this
    exact ⟨[], .refl _, rfl⟩
  | fuel + 1, keys, st, c, h => by
    unfold rangeMap
    rcases pick_cases c x op kind keys with ⟨hk, hp⟩ | ⟨k, hk, hp⟩
    · subst hk; rw [hp]; exact ⟨[], .refl _, rfl⟩
    · rw [hp]
      have hlen : (keys.erase k).length ≤ fuel := by rw [List.length_erase_of_mem hk]; omega
      obtain ⟨order, hperm, he⟩ := rangeMap_perm x op kind body fuel (keys.erase k) (body k st c).1 (body k st c).2 hlen
      exact ⟨k :: order, (List.Perm.cons k hperm).trans (List.perm_cons_erase hk).symm, he⟩

theorem rangeMap_inv {σ : Type} (x : Seid) (op : Op) (kind : Kind) (body : Nat → σ → Ctx → σ × Ctx)
    (R : List Nat → σ → Ctx → Prop)
    (hb : ∀ keys k st c, k ∈ keys → R keys st c → R (keys.erase k) (body k st c).1 (body k st c).2) :
    ∀ fuel keys st c, keys.length ≤ fuel → R keys st c →
      R [] (rangeMap x op kind body fuel keys st c).1 (rangeMap x op kind body fuel keys st c).2 := by
  intro fuel keys st c hlen hr
  obtain ⟨order, hp, he⟩ := rangeMap_perm x op kind body fuel keys st c hlen
  rw [he]
  clear he hlen
  induction order generalizing keys st c with
  | nil => rwa [List.nil_perm.mp hp] at hr
  | cons k l ih =>
    have hk : k ∈ keys := hp.subset List.mem_cons_self
    exact ih _ _ _ (hb keys k st c hk hr) (hp.trans (List.perm_cons_erase hk)).cons_inv

theorem rangeMap_fst {σ τ : Type} (x : Seid) (op : Op) (kind : Kind) (body : Nat → σ → Ctx → σ × Ctx) :
    ∀ fuel keys (a : σ × τ) c,
      rangeMap x op kind (fun k (a : σ × τ) c => (((body k a.1 c).1, a.2), (body k a.1 c).2)) fuel keys a c =
        (((rangeMap x op kind body fuel keys a.1 c).1, a.2), (rangeMap x op kind body fuel keys a.1 c).2)
  | 0, _, _, _ => rfl
  | fuel + 1, keys, a, c => by
    unfold rangeMap
    cases c.pick x op kind keys with
    | none => rfl
    | some k => exact rangeMap_fst x op kind body fuel _ _ _

/-- one turn of a loop of `Sess.close`: remove rule `id` of kind `K`, collect the reports that come back -/
def closeStep : Kind → Nat → Sess × List Report → Ctx → (Sess × List Report) × Ctx
  | .urr => fun id a c => (((a.1.removeURR { id := some id } c).1, a.2 ++ ((a.1.removeURR { id := some id } c).2.2).getD []),
      (a.1.removeURR { id := some id } c).2.1)
  | .pdr => fun id a c => (((a.1.removePDR { id := some id } c).1, a.2 ++ (a.1.removePDR { id := some id } c).2.2),
      (a.1.removePDR { id := some id } c).2.1)
  | K => fun id a c => (((a.1.removeSimple K { id := some id } c).1, a.2), (a.1.removeSimple K { id := some id } c).2)

/-- the loop of `Sess.close` over the rules of kind `K` (the SEID `x` only steers the order).  Irreducible, so that a unification
    that is going to fail does not first evaluate the loops: `closeK_perm`, `closeKs_keep` and `close_eq` are the ways in -/
@[irreducible] def closeK (x : Seid) (K : Kind) (a : Sess × List Report) (c : Ctx) : (Sess × List Report) × Ctx :=
  rangeMap x .remove K (closeStep K) (a.1.ids K).length (a.1.ids K) a c

theorem closeK_perm (x : Seid) (K : Kind) (a : Sess × List Report) (c : Ctx) :
    ∃ order : List Nat, order.Perm (a.1.ids K) ∧ closeK x K a c = order.foldl (fun p id => closeStep K id p.1 p.2) (a, c) := by
  unfold closeK
  exact rangeMap_perm x .remove K (closeStep K) _ (a.1.ids K) a c (Nat.le_refl _)

theorem close_eq (s : Sess) (c : Ctx) :
    s.close c =
      let p := [Kind.far, .qer, .urr, .bar, .pdr].foldl (fun p K => closeK s.localID K p.1 p.2) ((s, []), c)
      ({ p.1.1 with q := [] }, p.2, p.1.2) := by
  -- in the model the FAR, QER and BAR loops have the session alone as their state; here the reports ride along
  have hS := fun K => rangeMap_fst (τ := List Report) s.localID .remove K (fun id (s : Sess) c => s.removeSimple K { id := some id } c)
  simp only [Sess.close, closeK, closeStep, List.foldl_cons, List.foldl_nil, Sess.ids, hS]

theorem closeKs_keep (P : Sess × List Report → Ctx → Prop) (x : Seid) (Ks : List Kind)
    (hK : ∀ K ∈ Ks, ∀ id a c, P a c → P (closeStep K id a c).1 (closeStep K id a c).2) (a : Sess × List Report) (c : Ctx) (h : P a c) :
    P (Ks.foldl (fun p K => closeK x K p.1 p.2) (a, c)).1 (Ks.foldl (fun p K => closeK x K p.1 p.2) (a, c)).2 :=
  Ks.foldlRecOn (motive := fun (p : (Sess × List Report) × Ctx) => P p.1 p.2) _ h fun p hp K hm => by
    unfold closeK
    exact rangeMap_keep x .remove K _ P (hK K hm) _ _ p.1 p.2 hp

theorem close_keep (P : Sess → Ctx → List Report → Prop)
    (hK : ∀ K id a c, P a.1 c a.2 → P (closeStep K id a c).1.1 (closeStep K id a c).2 (closeStep K id a c).1.2)
    (hq : ∀ s c rs, P s c rs → P { s with q := [] } c rs)
    (s : Sess) (c : Ctx) (h : P s c []) : P (s.close c).1 (s.close c).2.1 (s.close c).2.2 := by
  rw [close_eq]
  exact hq _ _ _ (closeKs_keep (fun a c => P a.1 c a.2) s.localID _ (fun K _ => hK K) (s, []) c h)

end UpfVerif.Core
