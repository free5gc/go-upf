import UpfVerif.Spec.Gtp5gRead
import UpfVerif.Lemmas.Netlink
/-
Helper lemmas for Props/C02 and Props/C03.  A request is `oid ++ cs.flatMap childAttrs`, and the reader takes one field
of a rule out of it by attribute type: `leaves`/`nests` are `filterMap (leafOf t)`/`filterMap (nestOf t)`, `leaf1`/`nest1`
their `head?`.  So one lemma about `((pre ++ cs.flatMap f).filterMap g).head?` serves every single-valued field of every
rule kind, leaf or nested (`read1?` and its corollaries), one about `filterMap g` the repeated ones (`readAll?`); what a
kind supplies is, per field, what one child hands over under that type (by cases on the child) and that the value reads
back.  Also: "the value reads back" for each go-nl value constructor.
-/
namespace UpfVerif.XlateL
open UpfVerif.Netlink UpfVerif.Gtp5gRead

@[simp] theorem leaves_nil (t : Nat) : leaves [] t = [] := rfl
@[simp] theorem nests_nil (t : Nat) : nests [] t = [] := rfl

/-- a nested attribute that is left out under a condition, read under its own type -/
theorem nests_ite (c : Prop) [Decidable c] (t : Nat) (as : List Attr) :
    nests (if c then [] else [.nest t as]) t = (if c then none else some as).toList := by
  split
  · rfl
  · simp [nests, nestOf]

/-! ### one field of a rule, read out of `pre ++ cs.flatMap f`

`g` is `leafOf t` or `nestOf t`; `sel` picks the children of the field's kind, `enc` is what such a child hands over under
the type (nothing, when `none`), `rd` reads the value. -/

section
variable {α β γ δ : Type} {g : Attr → Option δ} {pre : List Attr} {f : α → List Attr} {sel : α → Option β} {cs : List α}

theorem filterMap_flatMap_sel {enc : β → Option δ} (hf : ∀ c, (f c).filterMap g = ((sel c).bind enc).toList) :
    (cs.flatMap f).filterMap g = (cs.filterMap sel).filterMap enc := by
  induction cs with
  | nil => rfl
  | cons c cs ih =>
    rw [List.flatMap_cons, List.filterMap_append, hf, ih, List.filterMap_cons]
    cases sel c with
    | none => rfl
    | some v => rw [List.filterMap_cons, Option.bind_some]; cases enc v <;> rfl

theorem filterMap_flatMap_nil (hf : ∀ c, (f c).filterMap g = []) : (cs.flatMap f).filterMap g = [] := by
  induction cs with
  | nil => rfl
  | cons c cs ih => rw [List.flatMap_cons, List.filterMap_append, hf, ih]; rfl

theorem readAll? {enc : β → Option δ} {rd : δ → γ}
    (hpre : pre.filterMap g = []) (hf : ∀ c, (f c).filterMap g = ((sel c).bind enc).toList) :
    ((pre ++ cs.flatMap f).filterMap g).map rd = (cs.filterMap sel).filterMap fun v => (enc v).map rd := by
  rw [List.filterMap_append, hpre, List.nil_append, filterMap_flatMap_sel hf, List.map_filterMap]

theorem readAll {enc : β → δ} {rd : δ → β} {l : List β}
    (hpre : pre.filterMap g = []) (hf : ∀ c, (f c).filterMap g = ((sel c).map enc).toList)
    (h : cs.filterMap sel = l) (hrd : ∀ v ∈ l, rd (enc v) = v) :
    ((pre ++ cs.flatMap f).filterMap g).map rd = l := by
  rw [readAll? (sel := sel) (enc := fun v => some (enc v)) hpre (fun c => by rw [hf]; cases sel c <;> rfl), h]
  show l.filterMap (fun v => some (rd (enc v))) = l
  rw [List.filterMap_eq_map', List.map_congr_left hrd, List.map_id']

theorem read1? {enc : β → Option δ} {rd : δ → γ} {ex : β → γ} {o : Option β}
    (hpre : pre.filterMap g = []) (hf : ∀ c, (f c).filterMap g = ((sel c).bind enc).toList)
    (h : cs.filterMap sel = o.toList) (hrd : ∀ v, o = some v → (enc v).map rd = some (ex v)) :
    ((pre ++ cs.flatMap f).filterMap g).head?.map rd = o.map ex := by
  rw [← List.head?_map, readAll? hpre hf, h]
  cases o with
  | none => rfl
  | some v => rw [Option.toList, List.filterMap_cons, hrd v rfl]; rfl

theorem read1 {enc : β → δ} {rd : δ → γ} {ex : β → γ} {o : Option β}
    (hpre : pre.filterMap g = []) (hf : ∀ c, (f c).filterMap g = ((sel c).map enc).toList)
    (h : cs.filterMap sel = o.toList) (hrd : ∀ v, o = some v → rd (enc v) = ex v) :
    ((pre ++ cs.flatMap f).filterMap g).head?.map rd = o.map ex :=
  read1? (enc := fun v => some (enc v)) hpre (fun c => by rw [hf]; cases sel c <;> rfl) h
    (fun v hv => congrArg some (hrd v hv))

theorem read1' {enc : β → δ} {rd : δ → β} {o : Option β}
    (hpre : pre.filterMap g = []) (hf : ∀ c, (f c).filterMap g = ((sel c).map enc).toList)
    (h : cs.filterMap sel = o.toList) (hrd : ∀ v, o = some v → rd (enc v) = v) :
    ((pre ++ cs.flatMap f).filterMap g).head?.map rd = o :=
  (read1 (ex := id) hpre hf h hrd).trans Option.map_id'

/-- the nested grouped IE of a PDR / FAR as `Arranges…` states it: none, or one that arranges the content -/
theorem arranged_sub {R : α → β → Prop} {l : List α} {o : Option β}
    (h : ∃ pss, l = pss ∧ pss.length = o.toList.length ∧ ∀ ps ∈ pss, ∀ q, o = some q → R ps q) :
    (o = none ∧ l = []) ∨ ∃ ps q, o = some q ∧ l = [ps] ∧ R ps q := by
  obtain ⟨_, rfl, hlen, harr⟩ := h
  cases o with
  | none => exact Or.inl ⟨rfl, List.eq_nil_of_length_eq_zero hlen⟩
  | some q =>
    match l, hlen with
    | [ps], _ => exact Or.inr ⟨ps, q, rfl, rfl, harr ps (by simp) q rfl⟩

/-- a nested grouped IE, handed over unless it comes out empty (`R`: the children arrange the content, `W`: it is well-formed) -/
theorem readSub {sub : β → List Attr} {σ ν : Type} {R : β → σ → Prop} {W : σ → Prop} {rd : List Attr → ν} {ex : σ → ν}
    {t : Nat} {o : Option σ} (hpre : nests pre t = [])
    (hf : ∀ c, nests (f c) t = ((sel c).bind fun b => if (sub b).isEmpty then none else some (sub b)).toList)
    (h : ∃ pss, cs.filterMap sel = pss ∧ pss.length = o.toList.length ∧ ∀ ps ∈ pss, ∀ q, o = some q → R ps q)
    (hw : ∀ q, o = some q → W q)
    (hrd : ∀ b q, R b q → W q → (sub b).isEmpty = false ∧ rd (sub b) = ex q) :
    (nest1 (pre ++ cs.flatMap f) t).map rd = o.map ex := by
  rcases arranged_sub h with ⟨rfl, hl⟩ | ⟨ps, q, rfl, hl, hR⟩
  · -- no such IE: `ex` is applied to nothing, any function serves
    exact read1? (g := nestOf t) (sel := sel) (enc := fun b => if (sub b).isEmpty then none else some (sub b)) (o := none)
      (ex := fun _ => rd []) hpre hf hl (fun _ hv => nomatch hv)
  · have ⟨hne, hq⟩ := hrd ps q hR (hw q rfl)
    exact read1? (g := nestOf t) (sel := sel) (enc := fun b => if (sub b).isEmpty then none else some (sub b)) (o := some ps)
      (ex := fun _ => ex q) hpre hf hl fun v hv => by
      cases hv; rw [hne, ← hq]; rfl

end

theorem bytes_of_read {γ : Type} {rd : List Attr → γ} {as : List Attr} {v : γ} (hsz : wfList as = true) (h : rd as = v) :
    (decodeTree (encList as)).map rd = some v := by
  rw [decodeTree_encList as hsz, Option.map_some, h]

theorem rd8_u8 (v : Nat) (h : v < 256) : rd8 [BitVec.ofNat 8 v] = v := by
  simp [rd8, BitVec.toNat_ofNat]; omega

theorem rd16_le16' (v : Nat) (h : v < 2 ^ 16) : rd16 (le16 v) = v := by
  rw [← List.append_nil (le16 v), rd16_le16, Nat.mod_eq_of_lt h]

theorem rd32_le32' (v : Nat) (h : v < 2 ^ 32) : rd32 (le32 v) = v := by
  rw [← List.append_nil (le32 v), rd32_le32, Nat.mod_eq_of_lt h]

theorem rd64_le64' (v : Nat) (h : v < 2 ^ 64) : rd64 (le64 v) = v := by
  rw [← List.append_nil (le64 v), rd64_le64, Nat.mod_eq_of_lt h]

end UpfVerif.XlateL
