import UpfVerif.Lemmas.CoreClose
import UpfVerif.Lemmas.CoreHandlers
import UpfVerif.Props.C04
import UpfVerif.Props.C05
/-
The global half of C01's invariant: every data-plane entry belongs to a live session that has it recorded (`Inv`).
`GoodStep st st' l`: a step with outputs `l` keeps the session table well-formed and keeps `Inv`; every event is one
(`step_good`).  Inside an event, `Good st c st' c'` says the same of a computation that takes the handler context from `c`
to `c'` (of the outputs it adds), and `Quiet` is a `Good` computation that leaves the length of the table alone: those can
follow one another (`Quiet.trans`), which is how the loops of `Reset` and `ServeReport` are lifted.
-/
namespace UpfVerif.Core
open UpfVerif.Spec

def Inv (st : State) (dp : DP) : Prop :=
  ∀ x k i, (x, k, i) ∈ dp → ∃ s, st.lnode.lookup x = some s ∧ i ∈ s.ids k ∧ (k = Kind.urr → NotRemoved s i)

theorem dpRun_other (x : Seid) (l : List Out) (dp : DP) (hd : DpOnly x l) (y : Seid) (k : Kind) (i : Nat) (hy : y ≠ x) :
    (y, k, i) ∈ dpRun dp l ↔ (y, k, i) ∈ dp := by
  refine dpRun_keep (fun dp' => (y, k, i) ∈ dp' ↔ (y, k, i) ∈ dp) l (fun c a hm dp' h => ?_) dp Iff.rfl
  obtain ⟨c', a', he, hs⟩ := hd _ hm
  cases he
  have hne : (y, k, i) ≠ key c := fun h => hy ((congrArg Prod.fst h).trans hs)
  rw [mem_dpApply_iff, ← h]
  simp [hne]

theorem sinv_of_inv (st : State) (wf : C04.TableWF st.lnode) (dp : DP) (h : Inv st dp) (x : Seid) (s : Sess)
    (hl : st.lnode.lookup x = some s) : SInv s dp := by
  intro k i hm
  have hid := C04.lookup_some_id st.lnode wf x s hl
  rw [hid] at hm
  obtain ⟨s', hl', h1, h2⟩ := h x k i hm
  rw [hl] at hl'; cases hl'
  exact ⟨h1, h2⟩

theorem no_entries_of_miss (st : State) (dp : DP) (h : Inv st dp) (x : Seid) (hl : st.lnode.lookup x = none) :
    ∀ k i, (x, k, i) ∉ dp := by
  intro k i hm
  obtain ⟨s, hs, _⟩ := h x k i hm
  rw [hl] at hs; cases hs

theorem inv_after_session_update (st : State) (wf : C04.TableWF st.lnode) (dp : DP) (h : Inv st dp)
    (x : Seid) (s0 s' : Sess) (hl : st.lnode.lookup x = some s0) (hid : s'.localID = s0.localID)
    (l : List Out) (hd : DpOnly x l) (hs' : SInv s' (dpRun dp l)) (st' : State)
    (hst : st'.lnode = st.lnode.setSess s') : Inv st' (dpRun dp l) := by
  have hx : s'.localID = x := hid.trans (C04.lookup_some_id st.lnode wf x s0 hl)
  intro y k i hm
  rw [hst, C04.lookup_setSess _ x s0 s' hl hx]
  split
  · rename_i hy; subst hy
    exact ⟨s', rfl, hs' k i (by rw [hx]; exact hm)⟩
  · rename_i hy
    exact h y k i ((dpRun_other x l dp hd y k i hy).mp hm)

theorem inv_of_lnode_eq (st st' : State) (dp : DP) (h : Inv st dp) (e : st'.lnode = st.lnode) : Inv st' dp := by
  intro x k i hm
  obtain ⟨s, hs, h1, h2⟩ := h x k i hm
  exact ⟨s, by rw [e]; exact hs, h1, h2⟩

/-- `+ 1 < 2 ^ 64` is the room `NewSess` needs to append a slot (C04 `newSess_spec`); the bound on the new length is what lets a
    history keep that room (C01 `run_inv_from`) -/
def GoodStep (st st' : State) (l : List Out) : Prop :=
  C04.TableWF st.lnode → st.lnode.sess.length + 1 < 2 ^ 64 →
    C04.TableWF st'.lnode ∧ st'.lnode.sess.length ≤ st.lnode.sess.length + 1 ∧
    ∀ dp, Inv st dp → natural dp l → Inv st' (dpRun dp l)

theorem GoodStep.of_lnode_eq {st st' st'' : State} {l : List Out} (g : GoodStep st st' l) (e : st''.lnode = st'.lnode) :
    GoodStep st st'' l := fun wf hr =>
  let ⟨w, n, i⟩ := g wf hr
  ⟨e ▸ w, e ▸ n, fun dp inv hn => inv_of_lnode_eq st' _ _ (i dp inv hn) e⟩

theorem GoodStep.of_start_eq {st st' st'' : State} {l : List Out} (g : GoodStep st' st'' l) (e : st'.lnode = st.lnode) :
    GoodStep st st'' l := fun wf hr =>
  let ⟨w, n, i⟩ := g (e ▸ wf) (e ▸ hr)
  ⟨w, e ▸ n, fun dp inv hn => i dp (inv_of_lnode_eq st _ dp inv e) hn⟩

theorem good_refl (st st' : State) (e : st'.lnode = st.lnode) : GoodStep st st' [] :=
  GoodStep.of_lnode_eq (fun wf _ => ⟨wf, Nat.le_succ _, fun _ inv _ => inv⟩) e

theorem GoodStep.trans {a b c : State} {l1 l2 : List Out} (h1 : GoodStep a b l1) (h2 : GoodStep b c l2)
    (hlen : b.lnode.sess.length = a.lnode.sess.length) : GoodStep a c (l1 ++ l2) := fun wf hr =>
  let ⟨w1, _, i1⟩ := h1 wf hr
  let ⟨w2, n2, i2⟩ := h2 w1 (hlen ▸ hr)
  ⟨w2, hlen ▸ n2, dpRun_seq i1 i2⟩

def Good (st : State) (c : Ctx) (st' : State) (c' : Ctx) : Prop := ∃ l, c'.outs = c.outs ++ l ∧ GoodStep st st' l

theorem Good.refl {st st' : State} (c : Ctx) (e : st'.lnode = st.lnode) : Good st c st' c :=
  ⟨[], (List.append_nil _).symm, good_refl st st' e⟩

theorem Good.of_outs {st st' : State} {c c' : Ctx} {l : List Out} (h : Good st c st' c') (hl : c'.outs = c.outs ++ l) :
    GoodStep st st' l := by
  obtain ⟨l', e, g⟩ := h
  rwa [List.append_cancel_left (hl.symm.trans e)]

/-- a datagram does not touch the data plane -/
theorem Good.emit {st0 st st' : State} {c0 c : Ctx} (h : Good st0 c0 st c) (e : st'.lnode = st.lnode) (to : String) (m : Msg) :
    Good st0 c0 st' (c.emit (.send to m)) := by
  obtain ⟨l, hl, hg⟩ := h
  refine ⟨l ++ [Out.send to m], by rw [Ctx.emit, hl, List.append_assoc], fun wf hr => ?_⟩
  obtain ⟨w, n, i⟩ := hg.of_lnode_eq e wf hr
  exact ⟨w, n, dpRun_seq i fun _ h _ => h⟩

theorem Good.sendRsp (addr : String) (m : Msg) {st0 st : State} {c0 c : Ctx} (h : Good st0 c0 st c) :
    Good st0 c0 (st.sendRsp addr m c).1 (st.sendRsp addr m c).2 := by
  unfold State.sendRsp
  split
  · exact h
  · exact h.emit rfl addr m

theorem good_session (st st' : State) (x : Seid) (s0 s' : Sess) (hl : st.lnode.lookup x = some s0)
    (hid : s'.localID = s0.localID) (l : List Out) (hd : DpOnly s0.localID l)
    (hp : ∀ dp, SInv s0 dp → natural dp l → SInv s' (dpRun dp l)) (hst : st'.lnode = st.lnode.setSess s') :
    GoodStep st st' l := by
  intro wf _
  have hx := C04.lookup_some_id st.lnode wf x s0 hl
  refine ⟨?_, by rw [hst]; simp [LNode.setSess], fun dp inv hn => ?_⟩
  · rw [hst]
    exact C04.setSess_wf st.lnode wf x s0 s' hl (hid.trans hx)
  · exact inv_after_session_update st wf dp inv x s0 s' hl hid l (hx ▸ hd)
      (hp dp (sinv_of_inv st wf dp inv x s0 hl) hn) st' hst

def Quiet (st : State) (c : Ctx) (st' : State) (c' : Ctx) : Prop :=
  Good st c st' c' ∧ st'.lnode.sess.length = st.lnode.sess.length

theorem Quiet.refl {st st' : State} (c : Ctx) (e : st'.lnode = st.lnode) : Quiet st c st' c := ⟨Good.refl c e, by rw [e]⟩

theorem Quiet.trans {a b c : State} {ca cb cc : Ctx} (h1 : Quiet a ca b cb) (h2 : Quiet b cb c cc) : Quiet a ca c cc :=
  let ⟨⟨l1, e1, g1⟩, n1⟩ := h1
  let ⟨⟨l2, e2, g2⟩, n2⟩ := h2
  ⟨⟨l1 ++ l2, by rw [e2, e1, List.append_assoc], g1.trans g2 n1⟩, n2.trans n1⟩

theorem quiet_setSess (st : State) (c : Ctx) (x : Seid) (s s' : Sess) (hl : st.lnode.lookup x = some s)
    (hid : s'.localID = s.localID) (hk : ∀ dp, SInv s dp → SInv s' dp) : Quiet st c (st.setSess s') c :=
  ⟨⟨[], (List.append_nil _).symm, good_session st _ x s s' hl hid [] (fun _ ho => nomatch ho) (fun dp hs _ => hk dp hs) rfl⟩,
   by simp [State.setSess, LNode.setSess]⟩

theorem deleteSess_quiet (st : State) (h : Nat) (x : Seid) (env : Env) (c : Ctx) :
    Quiet st c (st.deleteSess h x env c).1 (st.deleteSess h x env c).2.1 := by
  unfold State.deleteSess
  simp only []
  split
  · exact Quiet.refl c rfl
  · split
    · exact Quiet.refl c rfl
    · rename_i s hl
      have hcl := close_clears s c
      generalize s.close c = R at hcl
      obtain ⟨s', c', rs⟩ := R
      obtain ⟨_, l, e, d, _, p⟩ := hcl
      refine ⟨⟨l, e, fun wf _ => ⟨C04.release_wf st.lnode wf x s hl, by simp [State.modNode], fun dp inv hn => ?_⟩⟩,
        by simp [State.modNode]⟩
      have hx := C04.lookup_some_id st.lnode wf x s hl
      rw [hx] at d p
      obtain ⟨_, hgone⟩ := p dp (sinv_of_inv st wf dp inv x s hl) hn
      intro y k i hm
      -- nothing of `x` is left; every other SEID resolves as before and its entries were not touched
      have hy : y ≠ x := fun hc => hgone k i (hc ▸ hm)
      obtain ⟨sy, hsy, h1, h2⟩ := inv y k i ((dpRun_other x l dp d y k i hy).mp hm)
      exact ⟨sy, ((C04.release_lookup st.lnode wf x s hl).2 y hy).trans hsy, h1, h2⟩

theorem resetNode_quiet (st : State) (h : Nat) (env : Env) (c : Ctx) :
    Quiet st c (st.resetNode h env c).1 (st.resetNode h env c).2 :=
  resetNode_keep (Quiet st c) h env (fun st' c' x g => g.trans (deleteSess_quiet st' h x env c')) (fun _ _ g => g) st c
    (Quiet.refl c rfl)

theorem pushPkt_quiet (st : State) (c : Ctx) (x : Seid) (pdr : Nat) (act : BitVec 16) (pkt : Bytes) :
    Quiet st c (st.pushPkt x pdr act pkt) c := by
  unfold State.pushPkt
  split
  · rename_i s hl
    split
    · exact quiet_setSess st c x s _ hl (push_covers s _ _ _).1 (push_covers s _ _ _).sinv
    · exact Quiet.refl c rfl
  · exact Quiet.refl c rfl

theorem serveReport_quiet (st : State) (x : Seid) (items : List RepItem) (c : Ctx) :
    Quiet st c (serveReport st x items c).1 (serveReport st x items c).2 := by
  refine serveReport_keep (Quiet st c) x ?_ ?_ st ?_ items c (Quiet.refl c rfl)
  · exact fun st' c' pdr act pkt g => g.trans (pushPkt_quiet st' c' x pdr act pkt)
  · exact fun st' c' s rs hs g =>
      g.trans (quiet_setSess st' c' x s _ hs (by rw [emitUsars_frame]) (emitUsars_sinv s rs 0 false))
  · -- a Session Report Request is a datagram, and sending it leaves the session table alone
    exact fun _ dest _ _ st' c' m g => ⟨g.1.emit rfl dest _, g.2⟩

theorem handleMod_good (st : State) (addr : String) (seq : BitVec 24) (r : ModReq) (env : Env) (c : Ctx) :
    Good st c (handleMod st addr seq r env c).1 (handleMod st addr seq r env c).2 := by
  unfold handleMod
  split
  · exact (Good.refl c rfl).sendRsp addr _
  · rename_i s0 hl
    obtain ⟨hid, l, el, dl, pl⟩ := (runStages_eff (modStages r) (modStages_eff r) s0 c []).pres
    simp only []
    refine Good.sendRsp addr _ ⟨l, el, ?_⟩
    exact good_session st _ r.seid s0 (emitUsars (runStages (modStages r) s0 c []).1 (runStages (modStages r) s0 c []).2.2 0 true).1 hl
      (by rw [emitUsars_frame]; exact hid) l dl (fun dp hs hn => emitUsars_sinv _ _ 0 true _ (pl dp hs hn)) (by simp [State.setSess, State.takeover_lnode])

theorem handleEst_good (st : State) (addr : String) (seq : BitVec 24) (r : EstReq) (env : Env) (c : Ctx) :
    Good st c (handleEst st addr seq r env c).1 (handleEst st addr seq r env c).2 := by
  unfold handleEst
  split
  · exact Good.refl c rfl
  · split
    · exact Good.refl c rfl
    · split
      · exact Good.refl c rfl
      · rename_i nid _ h _ _ cp _
        have hspec := fun wf => C04.newSess_spec st.lnode wf h cp
        have hlen := C04.newSess_length st.lnode h cp
        generalize st.lnode.newSess h cp = N at hspec hlen
        obtain ⟨ln, s0⟩ := N
        simp only [] at hspec hlen ⊢
        have hp := (runStages_eff (estStages r) (estStages_eff r) s0 c []).pres
        generalize runStages (estStages r) s0 c [] = R at hp
        obtain ⟨s5, c5, u5⟩ := R
        obtain ⟨hid, l, el, dl, pl⟩ := hp
        refine Good.sendRsp addr _ ⟨l, el, fun wf hr => ?_⟩
        obtain ⟨wf', _, hfresh, hhit, _, hother⟩ := hspec wf hr
        -- the intermediate state: table with the fresh session, node set updated
        have hln : ((({ st with lnode := ln } : State).modNode h fun n => { n with sess := setIns n.sess s0.localID }).setSess s5).lnode
            = ln.setSess s5 := rfl
        refine ⟨hln ▸ C04.setSess_wf ln wf' s0.localID s0 s5 hhit hid, by rw [hln]; simpa [LNode.setSess] using hlen,
          fun dp inv hn => ?_⟩
        -- no entry carries the fresh SEID, so the new session's invariant holds vacuously
        have hnone := no_entries_of_miss st dp inv s0.localID hfresh
        have hs5 := pl dp (fun k i hm => absurd hm (hnone k i)) hn
        have inv1 : Inv ({ st with lnode := ln } : State) dp := by
          intro y k i hm
          obtain ⟨sy, hsy, h1, h2⟩ := inv y k i hm
          have hy : y ≠ s0.localID := by
            intro hc; subst hc; exact hnone k i hm
          exact ⟨sy, (hother y hy).trans hsy, h1, h2⟩
        exact inv_after_session_update ({ st with lnode := ln } : State) wf' dp inv1 s0.localID s0 s5 hhit hid l dl hs5
          _ hln

theorem handleDel_good (st : State) (addr : String) (seq : BitVec 24) (x : Seid) (env : Env) (c : Ctx) :
    Good st c (handleDel st addr seq x env c).1 (handleDel st addr seq x env c).2 := by
  unfold handleDel
  split
  · exact (Good.refl c rfl).sendRsp addr _
  · rename_i s0 hl
    exact (deleteSess_quiet st s0.rnode x env c).1.sendRsp addr _

theorem handleAssoc_good (st : State) (addr : String) (seq : BitVec 24) (nid : Option NodeId) (env : Env) (c : Ctx) :
    Good st c (handleAssoc st addr seq nid env c).1 (handleAssoc st addr seq nid env c).2 := by
  unfold handleAssoc
  split
  · exact Good.refl c rfl
  · simp only []
    split
    · rename_i h _
      have g := (resetNode_quiet st h env c).1
      generalize st.resetNode h env c = R at g   -- (as in `deleteSess_work`)
      obtain ⟨l, e, g⟩ := g
      exact Good.sendRsp addr _ ⟨l, e, g.of_lnode_eq rfl⟩
    · exact (Good.refl c rfl).sendRsp addr _

theorem handleReq_good (st : State) (addr : String) (seq : BitVec 24) (r : Req) (env : Env) (c : Ctx) :
    Good st c (handleReq st addr seq r env c).1 (handleReq st addr seq r env c).2 := by
  cases r with
  | heartbeat => exact (Good.refl c rfl).sendRsp addr _
  | assoc nid => exact handleAssoc_good st addr seq nid env c
  | est e => exact handleEst_good st addr seq e env c
  | mod m => exact handleMod_good st addr seq m env c
  | del x => exact handleDel_good st addr seq x env c
  | other => exact Good.refl c rfl

theorem step_good (st : State) (e : Event) (env : Env) : GoodStep st (step st e env).1 (step st e env).2 := by
  -- an event starts with no outputs, so what a computation adds is all there is: `of_outs rfl`
  cases e with
  | ignored => simpa [step] using good_refl st st rfl
  | rxTimeout addr seq => simp only [step]; exact good_refl st _ rfl
  | otherResponse addr seq =>
    simp only [step]
    split <;> exact good_refl st _ rfl
  | txTimeout addr seq =>
    simp only [step]
    split
    · exact good_refl st _ rfl
    · split
      · exact ((Good.refl { pending := env.pending } rfl).emit rfl addr _).of_outs rfl
      · exact good_refl st _ rfl
  | report x items => exact (serveReport_quiet st x items { pending := env.pending }).1.of_outs rfl
  | request addr seq r =>
    simp only [step]
    split
    · split
      · exact ((Good.refl { pending := env.pending } rfl).emit rfl addr _).of_outs rfl
      · exact good_refl st st rfl
    · exact ((handleReq_good { st with rx := alSet st.rx (addr, seq) {} } addr seq r env { pending := env.pending }).of_outs rfl).of_start_eq rfl
  | srResponse addr seq seid =>
    simp only [step]
    split
    · exact good_refl st st rfl
    · rename_i tx _
      split
      · split
        · exact good_refl st _ rfl
        · rename_i s _
          exact ((deleteSess_quiet { st with tx := alDel st.tx (addr, seq) } s.rnode s.localID env { pending := env.pending }).1.of_outs rfl).of_start_eq rfl
      · exact good_refl st _ rfl

end UpfVerif.Core
