import UpfVerif.Model.Core
import UpfVerif.Lemmas.List
/-
The association lists of M-Core (Go maps as `List (κ × ν)`: `alGet`, `alSet`, `alDel`).  Two facts carry almost everything:
what `alGet` returns after `alSet` / `alDel` (one equation each), and that `alGet` hits exactly the keys.  `alMod` names what
the model does to a URR's bookkeeping again and again: update the entry under a key in place, if there is one.  `cnt` counts the
entries whose value satisfies a predicate; an assignment and a deletion move it by the entry they replace (`cnt_alSet`, `cnt_alDel`).
-/
namespace UpfVerif.Core

theorem alGet_cons [DecidableEq κ] (p : κ × ν) (l : List (κ × ν)) (k : κ) :
    alGet (p :: l) k = if p.1 = k then some p.2 else alGet l k := by
  by_cases h : p.1 = k <;> simp [alGet, h]

theorem alGet_isSome_iff [DecidableEq κ] (l : List (κ × ν)) (k : κ) : (alGet l k).isSome = true ↔ k ∈ l.map (·.1) := by
  induction l with
  | nil => simp [alGet]
  | cons p l ih =>
    by_cases hp : p.1 = k
    · simp [alGet_cons, hp]
    · have hp' : ¬ k = p.1 := fun e => hp e.symm
      simp [alGet_cons, hp, hp', ih]

theorem alGet_eq_none [DecidableEq κ] (l : List (κ × ν)) (k : κ) : alGet l k = none ↔ k ∉ l.map (·.1) := by
  rw [← alGet_isSome_iff]
  cases alGet l k <;> simp

theorem alGet_none_of_not_mem [DecidableEq κ] (l : List (κ × ν)) (k : κ) (h : k ∉ l.map (·.1)) : alGet l k = none :=
  (alGet_eq_none l k).mpr h

theorem alGet_isSome_of_key [DecidableEq κ] (l : List (κ × ν)) (k : κ) (h : k ∈ l.map (·.1)) : (alGet l k).isSome = true :=
  (alGet_isSome_iff l k).mpr h

theorem alGet_mem [DecidableEq κ] (l : List (κ × ν)) (k : κ) (v : ν) (h : alGet l k = some v) : (k, v) ∈ l := by
  induction l with
  | nil => simp [alGet] at h
  | cons p l ih =>
    rw [alGet_cons] at h
    by_cases hp : p.1 = k
    · rw [if_pos hp, Option.some.injEq] at h
      rw [← hp, ← h]
      exact List.mem_cons_self
    · rw [if_neg hp] at h
      exact List.mem_cons_of_mem _ (ih h)

theorem alSet_cons [DecidableEq κ] (p : κ × ν) (l : List (κ × ν)) (k : κ) (v : ν) :
    alSet (p :: l) k v = if p.1 = k then (k, v) :: l else p :: alSet l k v := by
  by_cases h : p.1 = k <;> simp [alSet, h]

theorem alDel_cons [DecidableEq κ] (p : κ × ν) (l : List (κ × ν)) (k : κ) :
    alDel (p :: l) k = if p.1 = k then alDel l k else p :: alDel l k := by
  by_cases h : p.1 = k <;> simp [alDel, h]

theorem alGet_alSet [DecidableEq κ] (l : List (κ × ν)) (k k' : κ) (v : ν) :
    alGet (alSet l k v) k' = if k' = k then some v else alGet l k' := by
  induction l with
  | nil => simp only [alSet, alGet_cons, alGet]; grind
  | cons p l ih =>
    rw [alSet_cons]
    split <;> simp only [alGet_cons, ih] <;> grind

theorem alGet_alDel [DecidableEq κ] (l : List (κ × ν)) (k k' : κ) :
    alGet (alDel l k) k' = if k' = k then none else alGet l k' := by
  induction l with
  | nil => simp [alDel, alGet]
  | cons p l ih =>
    rw [alDel_cons]
    split <;> simp only [alGet_cons, ih] <;> grind

@[simp] theorem alGet_alSet_self [DecidableEq κ] (l : List (κ × ν)) (k : κ) (v : ν) : alGet (alSet l k v) k = some v := by
  rw [alGet_alSet, if_pos rfl]

theorem alGet_alSet_other [DecidableEq κ] (l : List (κ × ν)) (k k' : κ) (v : ν) (h : k' ≠ k) :
    alGet (alSet l k v) k' = alGet l k' := by
  rw [alGet_alSet, if_neg h]

@[simp] theorem alGet_alDel_self [DecidableEq κ] (l : List (κ × ν)) (k : κ) : alGet (alDel l k) k = none := by
  rw [alGet_alDel, if_pos rfl]

theorem alGet_alDel_other [DecidableEq κ] (l : List (κ × ν)) (k k' : κ) (h : k' ≠ k) :
    alGet (alDel l k) k' = alGet l k' := by
  rw [alGet_alDel, if_neg h]

theorem map_alSet [DecidableEq κ] (g : κ × ν → β) (l : List (κ × ν)) (k : κ) (v v' : ν) (h : alGet l k = some v)
    (hg : g (k, v') = g (k, v)) : (alSet l k v').map g = l.map g := by
  induction l with
  | nil => simp [alGet] at h
  | cons p l ih =>
    rw [alGet_cons] at h
    rw [alSet_cons]
    by_cases hp : p.1 = k
    · rw [if_pos hp, Option.some.injEq] at h
      rw [if_pos hp, List.map_cons, List.map_cons, hg, ← hp, ← h]
    · rw [if_neg hp] at h
      rw [if_neg hp, List.map_cons, List.map_cons, ih h]

theorem alSet_same [DecidableEq κ] (l : List (κ × ν)) (k : κ) (v : ν) (h : alGet l k = some v) : alSet l k v = l := by
  simpa using map_alSet id l k v v h rfl

theorem mem_alSet_val [DecidableEq κ] (l : List (κ × ν)) (k : κ) (v : ν) (p : κ × ν) (h : p ∈ alSet l k v) :
    p = (k, v) ∨ p ∈ l := by
  induction l with
  | nil => simpa [alSet] using h
  | cons q l ih =>
    rw [alSet_cons] at h
    split at h
    · exact (List.mem_cons.mp h).imp_right (List.mem_cons_of_mem q)
    · rcases List.mem_cons.mp h with h | h
      · exact Or.inr (h ▸ List.mem_cons_self)
      · exact (ih h).imp_right (List.mem_cons_of_mem q)

theorem alDel_of_not_mem [DecidableEq κ] (l : List (κ × ν)) (k : κ) (h : k ∉ l.map (·.1)) : alDel l k = l := by
  unfold alDel
  rw [List.filter_eq_self]
  intro p hp
  have : p.1 ≠ k := fun e => h (e ▸ List.mem_map_of_mem (f := (·.1)) hp)
  simpa using this

theorem keys_alSet_eq [DecidableEq κ] (l : List (κ × ν)) (k : κ) (v : ν) :
    (alSet l k v).map (·.1) = if k ∈ l.map (·.1) then l.map (·.1) else l.map (·.1) ++ [k] := by
  induction l with
  | nil => simp [alSet]
  | cons p l ih =>
    by_cases hp : p.1 = k
    · simp [alSet_cons, hp]
    · by_cases hk : k ∈ l.map (·.1) <;> simp [alSet_cons, hp, Ne.symm hp, ih, hk]

theorem keys_alSet_nodup [DecidableEq κ] (l : List (κ × ν)) (k : κ) (v : ν) (hn : (l.map (·.1)).Nodup) :
    ((alSet l k v).map (·.1)).Nodup := by
  rw [keys_alSet_eq]
  split
  · exact hn
  · rename_i hk
    exact nodup_concat.mpr ⟨hk, hn⟩

theorem keys_alDel_nodup [DecidableEq κ] (l : List (κ × ν)) (k : κ) (hn : (l.map (·.1)).Nodup) :
    ((alDel l k).map (·.1)).Nodup := by
  unfold alDel
  exact List.Nodup.sublist (List.Sublist.map _ List.filter_sublist) hn

theorem keys_alSet [DecidableEq κ] (l : List (κ × ν)) (k k' : κ) (v : ν) :
    k' ∈ (alSet l k v).map (·.1) ↔ k' = k ∨ k' ∈ l.map (·.1) := by
  rw [keys_alSet_eq]
  split
  · rename_i hk
    exact ⟨Or.inr, fun h => h.elim (fun e => e ▸ hk) id⟩
  · rw [List.mem_append, List.mem_singleton]
    exact Or.comm

theorem keys_alDel [DecidableEq κ] (l : List (κ × ν)) (k k' : κ) :
    k' ∈ (alDel l k).map (·.1) ↔ k' ≠ k ∧ k' ∈ l.map (·.1) := by
  rw [← alGet_isSome_iff, ← alGet_isSome_iff, alGet_alDel]
  by_cases h : k' = k <;> simp [h]

theorem alGet_some_mem_keys [DecidableEq κ] (l : List (κ × ν)) (k : κ) (v : ν) (h : alGet l k = some v) :
    k ∈ l.map (·.1) := (alGet_isSome_iff l k).mp (by rw [h]; rfl)

theorem alGet_map [DecidableEq κ] (l : List (κ × ν)) (g : κ → ν → ν) (k : κ) :
    alGet (l.map fun p => (p.1, g p.1 p.2)) k = (alGet l k).map (g k) := by
  induction l with
  | nil => rfl
  | cons p l ih =>
    rw [List.map_cons, alGet_cons, alGet_cons, ih]
    by_cases hp : p.1 = k <;> simp [hp]

/-- update in place: `if v, ok := m[k]; ok { m[k] = f(v) }` -/
def alMod [DecidableEq κ] (l : List (κ × ν)) (k : κ) (f : ν → ν) : List (κ × ν) :=
  match alGet l k with
  | some v => alSet l k (f v)
  | none => l

theorem alGet_alMod [DecidableEq κ] (l : List (κ × ν)) (k k' : κ) (f : ν → ν) :
    alGet (alMod l k f) k' = (alGet l k').map (if k' = k then f else id) := by
  unfold alMod
  by_cases h : k' = k
  · subst h
    cases hg : alGet l k' <;> simp [hg]
  · cases hg : alGet l k with
    | none => simp [h]
    | some v => simp [h, alGet_alSet_other _ _ _ _ h]

theorem keys_alMod [DecidableEq κ] (l : List (κ × ν)) (k : κ) (f : ν → ν) : (alMod l k f).map (·.1) = l.map (·.1) := by
  unfold alMod
  cases hg : alGet l k with
  | none => rfl
  | some v => rw [keys_alSet_eq, if_pos (alGet_some_mem_keys l k v hg)]

theorem alGet_foldl_mod [DecidableEq κ] (f : ν → ν) (ks : List κ) (hn : ks.Nodup) (l : List (κ × ν)) (k' : κ) :
    alGet (ks.foldl (alMod · · f) l) k' = (alGet l k').map (if k' ∈ ks then f else id) := by
  induction ks generalizing l with
  | nil => simp
  | cons a ks ih =>
    rw [List.nodup_cons] at hn
    rw [List.foldl_cons, ih hn.2, alGet_alMod]
    by_cases h : k' = a
    · subst h; simp [hn.1]
    · simp [h]

/-- `refPdrNum++`, `n` times -/
def URRInfo.addRef (i : URRInfo) (n : Nat) : URRInfo := { i with refPdrNum := i.refPdrNum + n }

theorem URRInfo.addRef_zero (i : URRInfo) : i.addRef 0 = i := rfl

theorem URRInfo.addRef_add (i : URRInfo) (a b : Nat) : (i.addRef a).addRef b = i.addRef (a + b) := by
  simp [URRInfo.addRef, Nat.add_assoc]

theorem alGet_bumpRef (us : List (Nat × URRInfo)) (u v : Nat) :
    alGet (bumpRef us u) v = (alGet us v).map (·.addRef (if v = u then 1 else 0)) := by
  rw [bumpRef, alGet_map us fun k i => if k == u then { i with refPdrNum := i.refPdrNum + 1 } else i]
  by_cases h : v = u
  · simp [h, URRInfo.addRef]
  · simp [h, URRInfo.addRef_zero]

theorem alGet_foldl_bumpRef (l : List Nat) (us : List (Nat × URRInfo)) (v : Nat) :
    alGet (l.foldl bumpRef us) v = (alGet us v).map (·.addRef (l.count v)) := by
  induction l generalizing us with
  | nil => simp [URRInfo.addRef_zero]
  | cons a l ih =>
    rw [List.foldl_cons, ih, alGet_bumpRef, List.count_cons, Option.map_map]
    congr 1; funext i
    by_cases h : v = a
    · subst h; simp [URRInfo.addRef_add, Nat.add_comm]
    · have h' : ¬ a = v := fun e => h e.symm
      simp [h, h', URRInfo.addRef_zero]

theorem bumpRef_keys (us : List (Nat × URRInfo)) (u : Nat) : (bumpRef us u).map (·.1) = us.map (·.1) := by
  simp [bumpRef, List.map_map, Function.comp_def]

theorem foldl_bumpRef_keys (l : List Nat) (us : List (Nat × URRInfo)) :
    (l.foldl bumpRef us).map (·.1) = us.map (·.1) :=
  foldl_fixed _ (·.map (·.1)) l (fun u _ us => bumpRef_keys us u) us

def cnt (P : ν → Bool) (l : List (κ × ν)) : Nat := (l.filter fun p => P p.2).length

def hit (P : ν → Bool) : Option ν → Nat
  | some o => if P o then 1 else 0
  | none => 0

theorem cnt_cons (P : ν → Bool) (p : κ × ν) (l : List (κ × ν)) :
    cnt P (p :: l) = (if P p.2 then 1 else 0) + cnt P l := by
  unfold cnt
  rw [List.filter_cons]
  split
  · rw [List.length_cons, Nat.add_comm]
  · rw [Nat.zero_add]

theorem cnt_alSet [DecidableEq κ] (P : ν → Bool) (l : List (κ × ν)) (k : κ) (v : ν) :
    cnt P (alSet l k v) + hit P (alGet l k) = cnt P l + (if P v then 1 else 0) := by
  induction l with
  | nil => by_cases h : P v <;> simp [alSet, alGet, hit, cnt, List.filter, h]
  | cons p l ih =>
    rw [alSet_cons, alGet_cons]
    by_cases hp : p.1 = k
    · simp only [if_pos hp, cnt_cons, hit]; omega
    · rw [if_neg hp, if_neg hp, cnt_cons, cnt_cons]; omega

theorem cnt_alDel [DecidableEq κ] (P : ν → Bool) (l : List (κ × ν)) (k : κ) (hn : (l.map (·.1)).Nodup) :
    cnt P (alDel l k) + hit P (alGet l k) = cnt P l := by
  induction l with
  | nil => simp [alDel, alGet, hit, cnt]
  | cons p l ih =>
    simp only [List.map_cons, List.nodup_cons] at hn
    rw [alDel_cons, alGet_cons, cnt_cons]
    by_cases hp : p.1 = k
    · rw [if_pos hp, if_pos hp, alDel_of_not_mem l k (hp ▸ hn.1), hit]; omega
    · rw [if_neg hp, if_neg hp, cnt_cons]
      have := ih hn.2; omega

theorem mem_setIns [DecidableEq α] (l : List α) (a b : α) : a ∈ setIns l b ↔ a = b ∨ a ∈ l := by
  unfold setIns
  by_cases h : b ∈ l
  · rw [if_pos h]
    exact ⟨Or.inr, fun ha => ha.elim (fun e => e ▸ h) id⟩
  · rw [if_neg h, List.mem_append, List.mem_singleton]
    exact Or.comm

theorem mem_arrange [DecidableEq α] (keys hint : List α) (a : α) : a ∈ arrange keys hint ↔ a ∈ keys := by
  unfold arrange
  by_cases hin : a ∈ hint <;> simp [List.mem_eraseDups, hin]

theorem nodup_eraseDups (l : List Nat) : l.eraseDups.Nodup := eraseDups_nodup l

theorem contains_iff (l : List Nat) (u : Nat) : l.contains u = true ↔ u ∈ l := by simp

/-- Update URR overwrites the method and MNOP flags and nothing else -/
theorem applyUpdate_frame (i : URRInfo) (ie : RuleIE) :
    (i.applyUpdate ie).removed = i.removed ∧ (i.applyUpdate ie).seqn = i.seqn ∧ (i.applyUpdate ie).refPdrNum = i.refPdrNum := by
  unfold URRInfo.applyUpdate
  cases ie.mnop <;> cases ie.meth <;> exact ⟨rfl, rfl, rfl⟩

end UpfVerif.Core
