import UpfVerif.Spec.Arrange
/-
The content the driver extracts from a child list (`spec…`, used by the run-time predicates of C02/C03) really is carried
by that list: `spec… cs = some p → Arranges… cs p`.  So the predicate evaluated on the implementation's bytes is an
instance of the theorems' hypothesis, not a second definition.
-/
namespace UpfVerif.Arrange
open UpfVerif.Rules UpfVerif.Xlate

theorem atMostOne_eq_some {α : Type} {l : List α} {o : Option α} : atMostOne l = some o ↔ l = o.toList := by
  match l with
  | [] => cases o <;> simp [atMostOne]
  | [a] => cases o <;> simp [atMostOne, eq_comm]
  | _ :: _ :: _ => cases o <;> simp [atMostOne]

/-
Every `spec…` is a chain of `Option` binds over `atMostOne (cs.filterMap …)`, after a `match` on the id list where the
kind has an id.  `split` takes the `match` apart; `Option.bind_eq_some_iff` with `atMostOne_eq_some` turns the chain
being `some p` into the fields of `Arranges…`, one equation per bind.
-/

theorem specPdi_arranges (cs : List PdiChild) (q : PdiSpec) (h : specPdi cs = some q) : ArrangesPdi cs q := by
  simp only [specPdi, Option.bind_eq_bind, Option.pure_def, Option.bind_eq_some_iff, Option.some.injEq,
    atMostOne_eq_some] at h
  obtain ⟨_, h1, _, h2, _, h3, rfl⟩ := h
  exact ⟨h1, h2, h3, rfl⟩

theorem specPdr_arranges (cs : List PdrChild) (p : PdrSpec) (h : specPdr cs = some p) : ArrangesPdr cs p := by
  simp only [specPdr, Option.bind_eq_bind, Option.pure_def] at h
  split at h
  next i hid =>
    simp only [Option.bind_some, Option.bind_eq_some_iff, atMostOne_eq_some] at h
    obtain ⟨_, h1, _, h2, _, h3, pd, h4, h⟩ := h
    cases pd with
    | none =>
      cases h
      exact ⟨hid, h1, h2, h3, rfl, rfl, ⟨[], h4, rfl, by simp⟩⟩
    | some ps =>
      simp only [Option.bind_eq_some_iff, Option.map_eq_some_iff, Option.some.injEq] at h
      obtain ⟨_, ⟨q, hq, rfl⟩, rfl⟩ := h
      exact ⟨hid, h1, h2, h3, rfl, rfl, ⟨[ps], h4, rfl, by simpa using specPdi_arranges ps q hq⟩⟩
  next => cases h

theorem specFwd_arranges (cs : List FpChild) (f : FwdSpec) (h : specFwd cs = some f) : ArrangesFwd cs f := by
  simp only [specFwd, Option.bind_eq_bind, Option.pure_def] at h
  split at h
  · cases h
  · simp only [Option.bind_eq_some_iff, Option.some.injEq, atMostOne_eq_some] at h
    obtain ⟨_, h1, _, h2, _, h3, rfl⟩ := h
    exact ⟨h1, h2, h3⟩

theorem specFar_arranges (cs : List FarChild) (p : FarSpec) (h : specFar cs = some p) : ArrangesFar cs p := by
  simp only [specFar, Option.bind_eq_bind, Option.pure_def] at h
  split at h
  next i hid =>
    simp only [Option.bind_some, Option.bind_eq_some_iff, atMostOne_eq_some] at h
    obtain ⟨_, h1, _, h2, fp, h3, h⟩ := h
    cases fp with
    | none =>
      cases h
      exact ⟨hid, h1, h2, ⟨[], h3, rfl, by simp⟩⟩
    | some fs =>
      simp only [Option.bind_eq_some_iff, Option.map_eq_some_iff, Option.some.injEq] at h
      obtain ⟨_, ⟨f, hf, rfl⟩, rfl⟩ := h
      exact ⟨hid, h1, h2, ⟨[fs], h3, rfl, by simpa using specFwd_arranges fs f hf⟩⟩
  next => cases h

theorem specBar_arranges (cs : List BarChild) (p : BarSpec) (h : specBar cs = some p) : ArrangesBar cs p := by
  simp only [specBar, Option.bind_eq_bind, Option.pure_def] at h
  split at h
  next i hid =>
    simp only [Option.bind_some, Option.bind_eq_some_iff, Option.some.injEq, atMostOne_eq_some] at h
    obtain ⟨_, h1, _, h2, rfl⟩ := h
    exact ⟨hid, h1, h2⟩
  next => cases h

theorem specQer_arranges (cs : List QerChild) (p : QerSpec) (h : specQer cs = some p) : ArrangesQer cs p := by
  simp only [specQer, Option.bind_eq_bind, Option.pure_def] at h
  split at h
  next i hid =>
    simp only [Option.bind_some, Option.bind_eq_some_iff, Option.some.injEq, atMostOne_eq_some] at h
    obtain ⟨_, h1, _, h2, _, h3, _, h4, _, h5, _, h6, _, h7, rfl⟩ := h
    exact ⟨hid, h1, h2, h3, h4, h5, h6, h7⟩
  next => cases h

theorem specUrr_arranges (cs : List UrrChild) (p : UrrSpec) (h : specUrr cs = some p) : ArrangesUrr cs p := by
  simp only [specUrr, Option.bind_eq_bind, Option.pure_def] at h
  split at h
  next i hid =>
    simp only [Option.bind_some, Option.bind_eq_some_iff, Option.some.injEq, atMostOne_eq_some] at h
    obtain ⟨_, h1, _, h2, _, h3, _, h4, _, h5, _, h6, rfl⟩ := h
    exact ⟨hid, h1, h2, h3, h4, h5, h6⟩
  next => cases h

end UpfVerif.Arrange
