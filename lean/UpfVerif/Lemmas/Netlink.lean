import UpfVerif.Wire.Netlink
/-
Netlink attribute trees read back: the tree decoder `decTree` (what a kernel does with `nla_parse_nested`: split by
length with 4-byte alignment, recurse into attributes that carry `NLA_F_NESTED`) applied to `encList as` returns `as`,
for every well-formed tree — any depth, any number of attributes, any payload.
-/
namespace UpfVerif.Netlink

/-- fuel: an upper bound on the number of bytes -/
def decTree : Nat → Bytes → Option (List Attr)
  | 0, b => if b.isEmpty then some [] else none
  | fuel + 1, b =>
    if b.isEmpty then some [] else
    if b.length < 4 then none else
    if rd16 b < 4 || rd16 b > b.length then none else
    match decTree fuel (b.drop (rd16 b + padLen (rd16 b))) with
    | none => none
    | some rest =>
      if isNested (rd16 (b.drop 2)) then
        match decTree fuel ((b.drop 4).take (rd16 b - 4)) with
        | some cs => some (.nest (typeOf (rd16 (b.drop 2))) cs :: rest)
        | none => none
      else some (.leaf (rd16 (b.drop 2)) ((b.drop 4).take (rd16 b - 4)) :: rest)

mutual
/-- well-formed: types fit (leaf types carry no flag bits we interpret, nested types are below the flag bits),
    lengths fit the 16-bit length field -/
def Attr.wf : Attr → Bool
  | .leaf t v => t < 0x8000 && 4 + v.length < 65536
  | .nest t cs => t < 0x4000 && 4 + (encList cs).length < 65536 && wfList cs
def wfList : List Attr → Bool
  | [] => true
  | a :: rest => a.wf && wfList rest
end

theorem le16_length (n : Nat) : (le16 n).length = 2 := rfl
theorem le32_length (n : Nat) : (le32 n).length = 4 := rfl

/-! little-endian values read back modulo their width, whatever follows: each width from the half below by `Nat.mod_mul` -/

theorem rd16_le16 (n : Nat) (rest : Bytes) : rd16 (le16 n ++ rest) = n % 2 ^ 16 := by
  show n % 2 ^ 8 + 256 * (n / 256 % 2 ^ 8) = n % 2 ^ 16
  exact (Nat.mod_mul (a := 256) (b := 256)).symm

theorem le32_eq (n : Nat) : le32 n = le16 n ++ le16 (n / 65536) := by
  simp [le32, le16, Nat.div_div_eq_div_mul]

theorem rd32_le32 (n : Nat) (rest : Bytes) : rd32 (le32 n ++ rest) = n % 2 ^ 32 := by
  rw [rd32, le32_eq, List.append_assoc, rd16_le16, List.drop_left' (le16_length n), rd16_le16]
  exact (Nat.mod_mul (a := 65536) (b := 65536)).symm

theorem rd64_le64 (n : Nat) (rest : Bytes) : rd64 (le64 n ++ rest) = n % 2 ^ 64 := by
  rw [rd64, le64, List.append_assoc, rd32_le32, List.drop_left' (le32_length n), rd32_le32]
  exact (Nat.mod_mul (a := 4294967296) (b := 4294967296)).symm

theorem pad_length (n : Nat) : (pad n).length = padLen n := by simp [pad]

theorem padLen_add (n : Nat) : (n + padLen n) % 4 = 0 := by unfold padLen; omega

theorem padLen_lt (n : Nat) : padLen n < 4 := by unfold padLen; omega

theorem padLen_add4 (n : Nat) : padLen (4 + n) = padLen n := by unfold padLen; rw [Nat.add_mod_left]

mutual
theorem Attr.enc_length_mod : (a : Attr) → a.enc.length % 4 = 0
  | .leaf t v => by
    rw [Attr.enc, List.length_append, List.length_append, List.length_append, pad_length, Nat.add_assoc, Nat.add_mod,
      padLen_add, le16_length, le16_length]
  | .nest t cs => by
    rw [Attr.enc, List.length_append, List.length_append, Nat.add_mod, encList_length_mod cs, le16_length, le16_length]
theorem encList_length_mod : (as : List Attr) → (encList as).length % 4 = 0
  | [] => rfl
  | a :: rest => by
    rw [encList, List.length_append, Nat.add_mod, Attr.enc_length_mod a, encList_length_mod rest]
end

theorem Attr.enc_length_pos (a : Attr) : 4 ≤ a.enc.length := by
  cases a <;> simp [Attr.enc, le16_length] <;> omega

theorem decTree_nil (fuel : Nat) : decTree fuel [] = some [] := by
  cases fuel <;> simp [decTree]

theorem isNested_leaf (t : Nat) (h : t < 0x8000) : isNested t = false := by
  simp [isNested]; omega

theorem isNested_nest (t : Nat) (h : t < 0x4000) : isNested (t + nestedFlag) = true := by
  simp [isNested, nestedFlag]; omega

theorem typeOf_nest (t : Nat) (h : t < 0x4000) : typeOf (t + nestedFlag) = t := by
  simp [typeOf, nestedFlag]; omega

theorem decTree_step (fuel t : Nat) (v p rest : Bytes)
    (hl : 4 + v.length < 65536) (ht : t < 65536) (hp : p.length = padLen v.length) :
    decTree (fuel + 1) (le16 (4 + v.length) ++ le16 t ++ v ++ p ++ rest) =
      match decTree fuel rest with
      | none => none
      | some r =>
        if isNested t then
          match decTree fuel v with
          | some cs => some (.nest (typeOf t) cs :: r)
          | none => none
        else some (.leaf t v :: r) := by
  -- on a name `b` for the input: the decoder's reads of it (length, type, payload, the rest) one by one, then `decTree` once
  obtain ⟨b, hb⟩ : ∃ b, b = le16 (4 + v.length) ++ le16 t ++ v ++ p ++ rest := ⟨_, rfl⟩
  have hb' : b = le16 (4 + v.length) ++ (le16 t ++ (v ++ (p ++ rest))) := by rw [hb]; simp only [List.append_assoc]
  have e1 : rd16 b = 4 + v.length := by rw [hb', rd16_le16, Nat.mod_eq_of_lt hl]
  have e2 : rd16 (b.drop 2) = t := by rw [hb', List.drop_left' (le16_length _), rd16_le16, Nat.mod_eq_of_lt ht]
  have e3 : (b.drop 4).take v.length = v := by
    rw [hb', ← List.append_assoc, List.drop_left' (show (le16 (4 + v.length) ++ le16 t).length = 4 from rfl), List.take_left' rfl]
  have hlen : (le16 (4 + v.length) ++ le16 t ++ v ++ p).length = 4 + v.length + padLen (4 + v.length) := by
    rw [padLen_add4, ← hp]; simp only [List.length_append, le16_length]
  have e4 : b.drop (4 + v.length + padLen (4 + v.length)) = rest := by rw [hb]; exact List.drop_left' hlen
  have hne : b.isEmpty = false := by rw [hb']; rfl
  have hbl : b.length = 4 + v.length + (padLen (4 + v.length) + rest.length) := by
    rw [hb, List.length_append, hlen, Nat.add_assoc]
  have h1 : ¬ (b.length < 4) := by
    rw [hbl, Nat.add_assoc]; exact Nat.not_lt.mpr (Nat.le_add_right 4 _)
  have h2 : ¬ (4 + v.length < 4 ∨ 4 + v.length > b.length) := by
    rw [hbl]; exact not_or.mpr ⟨Nat.not_lt.mpr (Nat.le_add_right 4 _), Nat.not_lt.mpr (Nat.le_add_right _ _)⟩
  rw [← hb, decTree]
  simp [hne, e1, e2, e3, e4, h1, h2]

theorem decTree_encList (fuel : Nat) : ∀ as : List Attr, wfList as = true → (encList as).length ≤ fuel →
    decTree fuel (encList as) = some as := by
  -- on the fuel, since the decoder recurses on it both for the rest and into a nested payload
  induction fuel with
  | zero =>
    intro as _ hf
    cases as with
    | nil => rfl
    | cons a rest => have := a.enc_length_pos; simp only [encList, List.length_append] at hf; omega
  | succ fuel ih =>
    intro as hwf hf
    cases as with
    | nil => exact decTree_nil _
    | cons a rest =>
      simp only [wfList, Bool.and_eq_true] at hwf
      have hpos := a.enc_length_pos
      simp only [encList, List.length_append] at hf
      have hr := ih rest hwf.2 (by omega)
      cases a with
      | leaf t v =>
        simp only [Attr.wf, Bool.and_eq_true, decide_eq_true_eq] at hwf
        obtain ⟨⟨ht, hlen⟩, _⟩ := hwf
        simp only [encList, Attr.enc]
        rw [decTree_step fuel t v (pad v.length) (encList rest) hlen (by omega) (pad_length _), hr]
        simp [isNested_leaf t ht]
      | nest t cs =>
        simp only [Attr.wf, Bool.and_eq_true, decide_eq_true_eq] at hwf
        obtain ⟨⟨⟨ht, hlen⟩, hcs⟩, _⟩ := hwf
        -- a nested payload is attributes, a multiple of 4 octets, so `Attr.enc` pads nothing: `decTree_step` with `p = []`
        have hpl : padLen (encList cs).length = 0 := by unfold padLen; rw [encList_length_mod cs]
        have hc := ih cs hcs (by simp [Attr.enc, le16_length] at hf; omega)
        have := decTree_step fuel (t + nestedFlag) (encList cs) [] (encList rest)
          hlen (by simp [nestedFlag]; omega) (by simp [hpl])
        simp only [List.append_nil] at this
        simp only [encList, Attr.enc]
        rw [this, hr, hc]
        simp [isNested_nest t ht, typeOf_nest t ht]

theorem decTree_enc : (a : Attr) → (rest : List Attr) → (fuel : Nat) → a.wf = true → wfList rest = true →
    (a.enc ++ encList rest).length ≤ fuel → decTree fuel (a.enc ++ encList rest) = some (a :: rest) :=
  fun a rest fuel hwf hr hf => decTree_encList fuel (a :: rest) (by simp [wfList, hwf, hr]) hf

/-- the decoder a kernel applies to a request body -/
def decodeTree (b : Bytes) : Option (List Attr) := decTree b.length b

/-- **reads back**: every well-formed attribute tree is recovered from its encoding -/
theorem decodeTree_encList (as : List Attr) (h : wfList as = true) : decodeTree (encList as) = some as :=
  decTree_encList _ as h (Nat.le_refl _)

end UpfVerif.Netlink
