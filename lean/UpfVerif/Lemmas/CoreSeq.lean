import UpfVerif.Model.Core
import UpfVerif.Lemmas.Core
import UpfVerif.Lemmas.CoreRef
import UpfVerif.Lemmas.CoreMeth
/-
The UR-SEQN counter and the removed mark of a URR under the rule operations of a session (C11): nothing but the emission of
a usage report moves the counter; nothing but Create URR resets it; nothing but Remove URR sets the mark.
-/
namespace UpfVerif.Core

def numOf (us : List (Nat × URRInfo)) (u : Nat) : Option (Nat × Bool) := (alGet us u).map fun i => (i.seqn, i.removed)

theorem numOf_eq_some {us : List (Nat × URRInfo)} {u n : Nat} {r : Bool} :
    numOf us u = some (n, r) ↔ ∃ i, alGet us u = some i ∧ i.seqn = n ∧ i.removed = r := by
  simp [numOf, Option.map_eq_some_iff]

theorem numOf_alMod (us : List (Nat × URRInfo)) (k u : Nat) (f : URRInfo → URRInfo)
    (hf : u = k → ∀ i, (f i).seqn = i.seqn ∧ (f i).removed = i.removed) : numOf (alMod us k f) u = numOf us u := by
  unfold numOf
  rw [alGet_alMod]
  cases alGet us u with
  | none => rfl
  | some i =>
    by_cases h : u = k
    · simp [h, (hf h i).1, (hf h i).2]
    · simp [h]

theorem numOf_of_blank {us us' : List (Nat × URRInfo)} (h : blank us' = blank us) (u : Nat) : numOf us' u = numOf us u := by
  have hb : ∀ l : List (Nat × URRInfo), numOf (blank l) u = numOf l u := by
    intro l
    rw [numOf, numOf, alGet_blank]
    cases alGet l u <;> rfl
  rw [← hb, h, hb]

def SOp.touches (u : Nat) : SOp → Bool
  | .createURR ie => ie.id == some u
  | .removeURR ie => ie.id == some u
  | _ => false

theorem apply_num (s : Sess) (c : Ctx) (op : SOp) (u : Nat) (h : op.touches u = false) :
    numOf (op.apply s c).1.urrs u = numOf s.urrs u := by
  cases op with
  | createURR ie =>
    simp only [SOp.apply, Sess.createURR]
    cases hid : ie.id with
    | none => rfl
    | some id =>
      have hu : u ≠ id := fun e => by simp [SOp.touches, hid, e] at h
      rw [numOf, numOf, alGet_alSet_other _ _ _ _ hu]
  | updateURR ie =>
    simp only [SOp.apply, updateURR_sess]
    cases ie.id with
    | none => rfl
    | some id => exact numOf_alMod _ _ _ _ (fun _ i => ⟨(applyUpdate_frame i ie).2.1, (applyUpdate_frame i ie).1⟩)
  | removeURR ie =>
    simp only [SOp.apply, removeURR_sess]
    cases hid : ie.id with
    | none => rfl
    | some id => exact numOf_alMod _ _ _ _ (fun e => by simp [SOp.touches, hid, e] at h)
  | queryURR ie => simp only [SOp.apply, queryURR_sess]
  | createPDR ie => exact numOf_of_blank (pdrOp_blank s c ie).1 u
  | updatePDR ie => exact numOf_of_blank (pdrOp_blank s c ie).2.1 u
  | removePDR ie => exact numOf_of_blank (pdrOp_blank s c ie).2.2 u

end UpfVerif.Core
