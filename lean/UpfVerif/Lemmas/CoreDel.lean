import UpfVerif.Model.Core
import UpfVerif.Lemmas.Core
import UpfVerif.Lemmas.CoreRef
import UpfVerif.Lemmas.CoreSeq
import UpfVerif.Lemmas.CoreMeth
import UpfVerif.Lemmas.CoreDP
/-
Session deletion (`Sess.Close`, C12): whatever order the maps are walked in and whatever the data plane answers, every
report that comes back is marked as a termination report, and each URR the session knows is removed from the data plane
by exactly the calls the walk makes for it.  What deletion relies on from the session's earlier life is at the end: the rule
operations (`SOp.apply`) keep the ids of the URR table distinct, keep the table when a URR loses its last PDR, and keep the SEID.
-/
namespace UpfVerif.Core

def Report.termr (r : Report) : Prop := r.trig &&& usarTERMR = usarTERMR

theorem flag_trig (f : BitVec 32) (rs : List Report) : ∀ r ∈ flag f rs, r.trig &&& f = f := by
  intro r hr
  simp only [flag, List.mem_map] at hr
  obtain ⟨r0, _, rfl⟩ := hr
  ext i hi
  simp only [BitVec.getElem_and, BitVec.getElem_or]
  cases r0.trig[i] <;> cases f[i] <;> rfl

theorem diassociate_termr (s : Sess) (u : Nat) (c : Ctx) : ∀ r ∈ (s.diassociate u c).2.2, r.termr := by
  rw [diassociate_eq]
  simp only []
  split
  · exact flag_trig usarTERMR _
  · exact fun _ h => nomatch h

theorem diassociateAll_termr (s : Sess) (us : List Nat) (c : Ctx) : ∀ r ∈ (s.diassociateAll us c).2.2, r.termr :=
  rangeMap_keep s.localID .query .urr _ (fun (a : Sess × List Report) _ => ∀ r ∈ a.2, r.termr)
    (fun u a c' h r hr => (List.mem_append.mp hr).elim (h r) (diassociate_termr a.1 u c' r)) _ _ (s, []) c
    (fun _ h => nomatch h)

theorem removePDR_termr (s : Sess) (ie : RuleIE) (c : Ctx) : ∀ r ∈ (s.removePDR ie c).2.2, r.termr := by
  rw [removePDR_eq]
  split
  · exact fun _ h => nomatch h
  · split
    · exact fun _ h => nomatch h
    · split
      · exact diassociateAll_termr _ _ _
      · exact fun _ h => nomatch h

theorem removeURR_termr (s : Sess) (ie : RuleIE) (c : Ctx) : ∀ r ∈ ((s.removeURR ie c).2.2).getD [], r.termr := by
  rw [removeURR_eq]
  split
  · exact fun _ h => nomatch h
  · split
    · split
      · exact flag_trig usarTERMR _
      · exact fun _ h => nomatch h
    · exact fun _ h => nomatch h

theorem close_termr (s : Sess) (c : Ctx) : ∀ r ∈ (s.close c).2.2, r.termr := by
  refine close_keep (fun _ _ rs => ∀ r ∈ rs, r.termr) (fun K id a c h => ?_) (fun _ _ _ h => h) s c (fun _ h => nomatch h)
  unfold closeStep
  cases K with
  | urr => exact fun r hr => (List.mem_append.mp hr).elim (h r) (removeURR_termr a.1 _ c r)
  | pdr => exact fun r hr => (List.mem_append.mp hr).elim (h r) (removePDR_termr a.1 _ c r)
  | _ => exact h

/-! ### each URR is removed from the data plane once -/

def rcount (c : Ctx) (x : Seid) (u : Nat) : Nat :=
  (c.outs.filter fun o => match o with
    | .dp call _ => call.seid == x && call.op == .remove && call.kind == .urr && call.id == u
    | _ => false).length

theorem rcount_call (c : Ctx) (call : DpCall) (x : Seid) (u : Nat) :
    rcount (c.call call).1 x u = rcount c x u +
      (if call.seid == x && call.op == .remove && call.kind == .urr && call.id == u then 1 else 0) :=
  ocount_call _ c call

theorem rcount_remove_urr (c : Ctx) (x : Seid) (k u : Nat) :
    rcount (c.call { seid := x, op := .remove, kind := .urr, id := k }).1 x u = rcount c x u + (if k = u then 1 else 0) := by
  rw [rcount_call]
  simp

theorem Tagged.rcount {x : Seid} {S : List (Op × Kind)} {c c' : Ctx} (h : Tagged x S c c') (hS : (Op.remove, Kind.urr) ∉ S)
    (y : Seid) (u : Nat) : rcount c' y u = rcount c y u :=
  h.ocount _ fun call _ hm => by
    refine Bool.eq_false_iff.mpr fun hc => hS ?_
    simp only [Bool.and_eq_true, beq_iff_eq] at hc
    rw [← hc.1.1.2, ← hc.1.2]
    exact hm

theorem removeSimple_urrs (s : Sess) (K : Kind) (ie : RuleIE) (c : Ctx) : (s.removeSimple K ie c).1.urrs = s.urrs := by
  unfold Sess.removeSimple
  split
  · rfl
  · split
    · split; split
      · cases K <;> rfl
      · rfl
    · rfl

theorem closeKs_frame (x : Seid) (Ks : List Kind) (hK : Kind.urr ∉ Ks) (a : Sess × List Report) (c : Ctx) (y : Seid) (u : Nat) :
    let p := Ks.foldl (fun p K => closeK x K p.1 p.2) (a, c)
    rcount p.2 y u = rcount c y u ∧ blank p.1.1.urrs = blank a.1.urrs ∧ p.1.1.localID = a.1.localID := by
  refine closeKs_keep (fun a' c' => rcount c' y u = rcount c y u ∧ blank a'.1.urrs = blank a.1.urrs ∧ a'.1.localID = a.1.localID)
    x Ks (fun K hm id a' c' h => ?_) a c ⟨rfl, rfl, rfl⟩
  have hne : K ≠ .urr := fun e => hK (e ▸ hm)
  have he := (closeStep_rem K id a' c').eff
  refine ⟨(he.tagged.rcount (by simpa using fun e => hne e.symm) y u).trans h.1, Eq.trans ?_ h.2.1, he.ids.1.trans h.2.2⟩
  unfold closeStep
  cases K with
  | urr => exact absurd rfl hne
  | pdr => exact (pdrOp_blank a'.1 c' _).2.2
  | _ => exact congrArg blank (removeSimple_urrs a'.1 _ _ c')

theorem closeK_urr_rcount (x : Seid) (a : Sess × List Report) (c : Ctx) (hn : (a.1.urrs.map (·.1)).Nodup) (u : Nat) :
    rcount (closeK x .urr a c).2 a.1.localID u = rcount c a.1.localID u + (if u ∈ a.1.urrs.map (·.1) then 1 else 0) := by
  unfold closeK
  -- loop invariant: the keys still to come are distinct and recorded, and `u` has had its call iff it is no longer among them
  have inv := rangeMap_inv x .remove .urr (closeStep .urr)
    (fun keys a' c' => keys.Nodup ∧ a'.1.localID = a.1.localID ∧ (∀ k ∈ keys, k ∈ a'.1.urrs.map (·.1)) ∧
      rcount c' a.1.localID u + (if u ∈ keys then 1 else 0) = rcount c a.1.localID u + (if u ∈ a.1.urrs.map (·.1) then 1 else 0))
    ?_ _ _ a c (Nat.le_refl _) ⟨hn, rfl, fun _ h => h, rfl⟩
  · exact inv.2.2.2
  · rintro keys k a' c' hk ⟨hnd, hl, hsub, hr⟩
    simp only [closeStep]
    rw [removeURR_eq]
    -- `k` is recorded, so the method makes its call, whatever the answer; marking keeps the keys, so the rest stay recorded
    simp only [alGet_isSome_of_key a'.1.urrs k (hsub k hk), if_true]
    refine ⟨hnd.erase k, hl, fun j hj => by rw [keys_alMod]; exact hsub j (List.mem_of_mem_erase hj), ?_⟩
    rw [hl, rcount_remove_urr, ← hr]
    by_cases hku : k = u
    · rw [← hku, if_pos rfl, if_pos hk, if_neg hnd.not_mem_erase]
    · simp only [if_neg hku, Nat.add_zero, List.mem_erase_of_ne fun e : u = k => hku e.symm]

theorem close_removes_each_once (s : Sess) (c : Ctx) (hn : (s.urrs.map (·.1)).Nodup) (u : Nat) :
    rcount (s.close c).2.1 s.localID u = rcount c s.localID u + (if u ∈ s.urrs.map (·.1) then 1 else 0) := by
  rw [close_eq, show [Kind.far, .qer, .urr, .bar, .pdr] = [.far, .qer] ++ .urr :: [.bar, .pdr] from rfl, List.foldl_append,
    List.foldl_cons]
  -- the loops before the URRs' (FARs, QERs) and after it (BARs, PDRs) make no REMOVE_URR call and keep the URR ids and the SEID
  obtain ⟨b1, b2, b3⟩ := closeKs_frame s.localID [.far, .qer] (by decide) (s, []) c s.localID u
  refine (closeKs_frame s.localID [.bar, .pdr] (by decide) _ _ s.localID u).1.trans ?_
  generalize List.foldl _ ((s, []), c) [Kind.far, .qer] = b at b1 b2 b3 ⊢
  have u1 := closeK_urr_rcount s.localID b.1 b.2 (by rw [keys_of_blank b2]; exact hn) u
  rwa [keys_of_blank b2, b3, b1] at u1

/-! ### after deletion every URR the session still records is marked removed -/

def AllRemoved (s : Sess) : Prop := ∀ k info, alGet s.urrs k = some info → info.removed = true

theorem closeK_urr_allRemoved (x : Seid) (a : Sess × List Report) (c : Ctx) : AllRemoved (closeK x .urr a c).1.1 := by
  unfold closeK
  -- loop invariant: every entry whose key has left the key set is marked
  have inv := rangeMap_inv x .remove .urr (closeStep .urr)
    (fun keys a' _ => ∀ k i, alGet a'.1.urrs k = some i → k ∉ keys → i.removed = true) ?_
    (a.1.ids .urr).length (a.1.ids .urr) a c (Nat.le_refl _)
    (fun k i hi hk => absurd (alGet_some_mem_keys _ _ _ hi) hk)
  · exact fun k i hi => inv k i hi List.not_mem_nil
  · intro keys j a' c' _ hR k i hi hk
    simp only [closeStep, removeURR_sess] at hi
    rw [alGet_alMod] at hi
    by_cases hkj : k = j
    · rw [if_pos hkj] at hi
      obtain ⟨i0, _, rfl⟩ := Option.map_eq_some_iff.mp hi
      rfl
    · rw [if_neg hkj, Option.map_id] at hi
      exact hR k i hi fun hm => hk ((List.mem_erase_of_ne hkj).mpr hm)

theorem AllRemoved.of_blank {s s' : Sess} (h : AllRemoved s) (hb : blank s'.urrs = blank s.urrs) : AllRemoved s' := by
  intro k info' hk
  have hn := numOf_of_blank hb k
  rw [numOf, hk] at hn
  obtain ⟨info, hg, _, hr⟩ := numOf_eq_some.mp hn.symm
  exact hr ▸ h k info hg

theorem close_allRemoved (s : Sess) (c : Ctx) : AllRemoved (s.close c).1 := by
  rw [close_eq, show [Kind.far, .qer, .urr, .bar, .pdr] = [.far, .qer] ++ .urr :: [.bar, .pdr] from rfl, List.foldl_append,
    List.foldl_cons]
  exact (closeK_urr_allRemoved s.localID _ _).of_blank (closeKs_frame s.localID [.bar, .pdr] (by decide) _ _ 0 0).2.1

/-! ### what deletion relies on from the session's earlier life -/

def UKeys (s : Sess) : Prop := (s.urrs.map (·.1)).Nodup

theorem apply_keys (s : Sess) (c : Ctx) (op : SOp) (h : UKeys s) : UKeys (op.apply s c).1 := by
  unfold UKeys at h ⊢
  cases op with
  | createURR ie =>
    simp only [SOp.apply, Sess.createURR]
    cases ie.id with
    | none => exact h
    | some id => exact keys_alSet_nodup s.urrs id _ h
  | updateURR ie =>
    simp only [SOp.apply, updateURR_sess]
    cases ie.id with
    | none => exact h
    | some id => simp only [keys_alMod]; exact h
  | removeURR ie =>
    simp only [SOp.apply, removeURR_sess]
    cases ie.id with
    | none => exact h
    | some id => simp only [keys_alMod]; exact h
  | queryURR ie => simp only [SOp.apply, queryURR_sess]; exact h
  | createPDR ie => simp only [SOp.apply, keys_of_blank (pdrOp_blank s c ie).1]; exact h
  | updatePDR ie => simp only [SOp.apply, keys_of_blank (pdrOp_blank s c ie).2.1]; exact h
  | removePDR ie => simp only [SOp.apply, keys_of_blank (pdrOp_blank s c ie).2.2]; exact h

theorem detach_keeps_urr_table (s : Sess) (ie : RuleIE) (c : Ctx) :
    (s.removePDR ie c).1.urrs.map (·.1) = s.urrs.map (·.1) ∧ (s.updatePDR ie c).1.urrs.map (·.1) = s.urrs.map (·.1) :=
  ⟨keys_of_blank (pdrOp_blank s c ie).2.2, keys_of_blank (pdrOp_blank s c ie).2.1⟩

theorem apply_localID (s : Sess) (c : Ctx) (op : SOp) : (op.apply s c).1.localID = s.localID := by
  cases op with
  | createURR ie => exact (createURR_eff s ie c).ids.1
  | updateURR ie => exact (updateURR_eff s ie c).ids.1
  | removeURR ie => exact (removeURR_eff s ie c).ids.1
  | queryURR ie => exact (queryURR_eff s ie c).ids.1
  | createPDR ie => exact (createPDR_eff s ie c).ids.1
  | updatePDR ie => exact (updatePDR_eff s ie c).ids.1
  | removePDR ie => exact (removePDR_eff s ie c).ids.1

theorem removePDR_localID (s : Sess) (ie : RuleIE) (c : Ctx) : (SOp.apply s c (.removePDR ie)).1.localID = s.localID :=
  apply_localID s c (.removePDR ie)

theorem updatePDR_localID (s : Sess) (ie : RuleIE) (c : Ctx) : (SOp.apply s c (.updatePDR ie)).1.localID = s.localID :=
  apply_localID s c (.updatePDR ie)

end UpfVerif.Core
