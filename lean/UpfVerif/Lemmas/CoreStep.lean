import UpfVerif.Lemmas.CoreHandlers
/-
What one event may do to the two transaction tables of the server (`State.rx`, `State.tx`; keys "addr-seq" in both), once:
C06 (a retained response is touched by nothing but its own request and expiry) and C09 (an outstanding request by nothing but
its own response and timer) are read off `step_footprint`.
-/
namespace UpfVerif.Core

def OffKey [DecidableEq κ] (k : κ) (l l' : List (κ × ν)) : Prop := ∀ k', k' ≠ k → alGet l' k' = alGet l k'

theorem OffKey.refl [DecidableEq κ] (k : κ) (l : List (κ × ν)) : OffKey k l l := fun _ _ => rfl
theorem OffKey.set [DecidableEq κ] (k : κ) (l : List (κ × ν)) (v : ν) : OffKey k l (alSet l k v) := fun k' => alGet_alSet_other l k k' v
theorem OffKey.del [DecidableEq κ] (k : κ) (l : List (κ × ν)) : OffKey k l (alDel l k) := fun k' => alGet_alDel_other l k k'
theorem OffKey.trans [DecidableEq κ] {k : κ} {a b c : List (κ × ν)} (h1 : OffKey k a b) (h2 : OffKey k b c) : OffKey k a c :=
  fun k' h => (h2 k' h).trans (h1 k' h)

theorem step_footprint (st : State) (e : Event) (env : Env) :
    match e with
    | .request a q _ | .rxTimeout a q => OffKey (a, q) st.rx (step st e env).1.rx ∧ (step st e env).1.tx = st.tx
    | .srResponse a q _ | .otherResponse a q | .txTimeout a q =>
      (step st e env).1.rx = st.rx ∧ OffKey (a, q) st.tx (step st e env).1.tx
    | .report _ _ => (step st e env).1.rx = st.rx
    | .ignored => (step st e env).1.rx = st.rx ∧ (step st e env).1.tx = st.tx := by
  cases e with
  | ignored => exact ⟨rfl, rfl⟩
  | rxTimeout a q => exact ⟨.del _ _, rfl⟩
  | report x items => exact serveReport_rx st x items _
  | request a q r =>
    simp only [step]
    split
    · split <;> exact ⟨.refl _ _, rfl⟩
    · refine ⟨?_, (handleReq_tx { st with rx := alSet st.rx (a, q) {} } a q r env { pending := env.pending }).1⟩
      rcases handleReq_rx { st with rx := alSet st.rx (a, q) {} } a q r env { pending := env.pending } with e | ⟨m, _, e⟩
      · rw [e]; exact .set _ _ _
      · rw [e]; exact (OffKey.set _ _ _).trans (OffKey.set _ _ _)
  | otherResponse a q =>
    simp only [step]
    split
    · exact ⟨rfl, .refl _ _⟩
    · exact ⟨rfl, .del _ _⟩
  | txTimeout a q =>
    simp only [step]
    split
    · exact ⟨rfl, .refl _ _⟩
    · split
      · exact ⟨rfl, .set _ _ _⟩
      · exact ⟨rfl, .del _ _⟩
  | srResponse a q seid =>
    simp only [step]
    split
    · exact ⟨rfl, .refl _ _⟩
    · split
      · split
        · exact ⟨rfl, .del _ _⟩
        · rename_i s _
          have hd := (deleteSess_work { st with tx := alDel st.tx (a, q) } s.rnode s.localID env { pending := env.pending }).1
          exact ⟨hd.1, by rw [hd.2.1]; exact .del _ _⟩
      · exact ⟨rfl, .del _ _⟩

end UpfVerif.Core
