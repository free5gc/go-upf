import UpfVerif.Lemmas.Core
import UpfVerif.Lemmas.CoreLoop
/-
The `Sess` methods of M-Core in normal form.  The model follows node.go: `let (c', a) := c.call …; if a.ok then … else …`.  Here each
method is written once in projection form, with the conditionals pushed into its three components (session, context, reports)
and the session component in terms of `alSet` / `alDel` / `alMod`, so that a proof about ONE component rewrites with the equation
and never case-splits on the driver's answer.  The dissociation loop is a fold over a permutation of the URR ids (`CoreLoop`):
`diassociateAll_perm` turns it into the plain recursion `disFold`, whose session component is a fold of `alMod`.
-/
namespace UpfVerif.Core

/-- `refPdrNum--` (uint16 in Go; the model guards it with `> 0`, and `0 - 1 = 0` here) -/
def URRInfo.decRef (i : URRInfo) : URRInfo := { i with refPdrNum := i.refPdrNum - 1 }

def URRInfo.markRemoved (i : URRInfo) : URRInfo := { i with removed := true }

theorem diassociate_eq (s : Sess) (u : Nat) (c : Ctx) :
    s.diassociate u c =
      ({ s with urrs := alMod s.urrs u URRInfo.decRef },
       if (alGet s.urrs u).map (·.refPdrNum) = some 1 then (c.call { seid := s.localID, op := .query, kind := .urr, id := u }).1 else c,
       if (alGet s.urrs u).map (·.refPdrNum) = some 1 ∧ (c.call { seid := s.localID, op := .query, kind := .urr, id := u }).2.ok = true
       then flag usarTERMR (c.call { seid := s.localID, op := .query, kind := .urr, id := u }).2.reports else []) := by
  unfold Sess.diassociate alMod
  cases hg : alGet s.urrs u with
  | none => rfl
  | some i =>
    simp only [Option.map_some, Option.some.injEq]
    by_cases h0 : i.refPdrNum > 0
    · by_cases h1 : i.refPdrNum = 1
      · simp only [h1, URRInfo.decRef]
        cases (c.call { seid := s.localID, op := .query, kind := .urr, id := u }).2.ok <;> simp
      · have : ¬ i.refPdrNum - 1 = 0 := by omega
        simp [h0, h1, this, URRInfo.decRef]
    · -- the guard `> 0` fails and the model leaves the session alone; on the right `decRef` writes the same entry back
      have h1 : i.refPdrNum = 0 := by omega
      have : URRInfo.decRef i = i := by cases i; simp_all [URRInfo.decRef]
      simp [h1, this, alSet_same _ _ _ hg]

def disFold (s : Sess) (c : Ctx) (rs : List Report) : List Nat → Sess × Ctx × List Report
  | [] => (s, c, rs)
  | u :: l => disFold (s.diassociate u c).1 (s.diassociate u c).2.1 (rs ++ (s.diassociate u c).2.2) l

theorem diassociateAll_perm (s : Sess) (us : List Nat) (c : Ctx) :
    ∃ order : List Nat, order.Perm us ∧ s.diassociateAll us c = disFold s c [] order := by
  unfold Sess.diassociateAll
  obtain ⟨order, hp, he⟩ := rangeMap_perm s.localID .query .urr (fun u (acc : Sess × List Report) c =>
      let (s2, c2, r) := acc.1.diassociate u c
      ((s2, acc.2 ++ r), c2)) us.length us (s, []) c (Nat.le_refl _)
  refine ⟨order, hp, ?_⟩
  rw [he]
  clear hp he
  generalize ([] : List Report) = rs
  induction order generalizing s c rs with
  | nil => rfl
  | cons u l ih => exact ih ..

theorem disFold_sess (l : List Nat) : ∀ (s : Sess) (c : Ctx) (rs : List Report),
    (disFold s c rs l).1 = { s with urrs := l.foldl (alMod · · URRInfo.decRef) s.urrs } := by
  induction l with
  | nil => intro s c rs; rfl
  | cons u l ih => intro s c rs; rw [disFold, ih, diassociate_eq]; rfl

theorem removePDR_eq (s : Sess) (ie : RuleIE) (c : Ctx) :
    s.removePDR ie c =
      match ie.id with
      | none => (s, c, [])
      | some pdrid =>
        match alGet s.pdrs pdrid with
        | none => (s, c, [])
        | some us =>
          if (c.call { seid := s.localID, op := .remove, kind := .pdr, id := pdrid }).2.ok = true then
            ({ s with pdrs := alDel s.pdrs pdrid, q := alDel s.q pdrid } : Sess).diassociateAll us
              (c.call { seid := s.localID, op := .remove, kind := .pdr, id := pdrid }).1
          else (s, (c.call { seid := s.localID, op := .remove, kind := .pdr, id := pdrid }).1, []) := by
  unfold Sess.removePDR
  cases ie.id with
  | none => rfl
  | some pdrid =>
    simp only []
    cases alGet s.pdrs pdrid with
    | none => rfl
    | some us => cases (c.call { seid := s.localID, op := .remove, kind := .pdr, id := pdrid }).2.ok <;> rfl

theorem updatePDR_eq (s : Sess) (ie : RuleIE) (c : Ctx) :
    s.updatePDR ie c =
      match alGet s.pdrs (ie.id.getD 0) with
      | none => (s, c, [])
      | some old =>
        if (c.call { seid := s.localID, op := .update, kind := .pdr, id := ie.id.getD 0 }).2.ok = true then
          (let d := s.diassociateAll (old.filter (· ∉ ie.urrs.eraseDups))
              (c.call { seid := s.localID, op := .update, kind := .pdr, id := ie.id.getD 0 }).1
           ({ d.1 with urrs := (ie.urrs.eraseDups.filter (· ∉ old)).foldl bumpRef d.1.urrs,
                       pdrs := alSet d.1.pdrs (ie.id.getD 0) ie.urrs.eraseDups }, d.2.1, d.2.2))
        else (s, (c.call { seid := s.localID, op := .update, kind := .pdr, id := ie.id.getD 0 }).1, []) := by
  unfold Sess.updatePDR
  simp only []
  cases alGet s.pdrs (ie.id.getD 0) with
  | none => rfl
  | some old => cases (c.call { seid := s.localID, op := .update, kind := .pdr, id := ie.id.getD 0 }).2.ok <;> rfl

theorem removePDR_sess (s : Sess) (ie : RuleIE) (c : Ctx) :
    (s.removePDR ie c).1 = s ∨ ∃ pdrid us, ∃ order : List Nat, ie.id = some pdrid ∧ alGet s.pdrs pdrid = some us ∧ order.Perm us ∧
      (s.removePDR ie c).1 =
        { s with pdrs := alDel s.pdrs pdrid, q := alDel s.q pdrid, urrs := order.foldl (alMod · · URRInfo.decRef) s.urrs } := by
  rw [removePDR_eq]
  split
  · exact .inl rfl
  · split
    · exact .inl rfl
    · rename_i _ pdrid hid _ us hg
      split
      · obtain ⟨order, hp, he⟩ := diassociateAll_perm ({ s with pdrs := alDel s.pdrs pdrid, q := alDel s.q pdrid } : Sess) us
          (c.call { seid := s.localID, op := .remove, kind := .pdr, id := pdrid }).1
        exact .inr ⟨pdrid, us, order, hid, hg, hp, by rw [he, disFold_sess]⟩
      · exact .inl rfl

theorem updatePDR_sess (s : Sess) (ie : RuleIE) (c : Ctx) :
    (s.updatePDR ie c).1 = s ∨ ∃ old, ∃ order : List Nat, alGet s.pdrs (ie.id.getD 0) = some old ∧
      order.Perm (old.filter (· ∉ ie.urrs.eraseDups)) ∧
      (s.updatePDR ie c).1 =
        { s with pdrs := alSet s.pdrs (ie.id.getD 0) ie.urrs.eraseDups,
                 urrs := (ie.urrs.eraseDups.filter (· ∉ old)).foldl bumpRef (order.foldl (alMod · · URRInfo.decRef) s.urrs) } := by
  rw [updatePDR_eq]
  split
  · exact .inl rfl
  · rename_i old hg
    split
    · obtain ⟨order, hp, he⟩ := diassociateAll_perm s (old.filter (· ∉ ie.urrs.eraseDups))
        (c.call { seid := s.localID, op := .update, kind := .pdr, id := ie.id.getD 0 }).1
      exact .inr ⟨old, order, hg, hp, by simp only [he, disFold_sess]⟩
    · exact .inl rfl

theorem removeURR_sess (s : Sess) (ie : RuleIE) (c : Ctx) :
    (s.removeURR ie c).1 = { s with urrs := match ie.id with
                                            | some id => alMod s.urrs id URRInfo.markRemoved
                                            | none => s.urrs } := by
  unfold Sess.removeURR alMod
  cases ie.id with
  | none => rfl
  | some id =>
    simp only []
    cases alGet s.urrs id with
    | none => rfl
    | some info => simp only []; split <;> rfl

theorem updateURR_sess (s : Sess) (ie : RuleIE) (c : Ctx) :
    (s.updateURR ie c).1 = { s with urrs := match ie.id with
                                            | some id => alMod s.urrs id (·.applyUpdate ie)
                                            | none => s.urrs } := by
  unfold Sess.updateURR alMod
  cases ie.id with
  | none => rfl
  | some id =>
    simp only []
    cases alGet s.urrs id with
    | none => rfl
    | some info => simp only []; split <;> rfl

theorem queryURR_sess (s : Sess) (ie : RuleIE) (c : Ctx) : (s.queryURR ie c).1 = s := by
  unfold Sess.queryURR
  cases ie.id with
  | none => rfl
  | some id =>
    simp only []
    cases alGet s.urrs id with
    | none => rfl
    | some info => simp only []; split <;> rfl

theorem removeURR_eq (s : Sess) (ie : RuleIE) (c : Ctx) :
    s.removeURR ie c =
      match ie.id with
      | none => (s, c, none)
      | some id =>
        if (alGet s.urrs id).isSome = true then
          ({ s with urrs := alMod s.urrs id URRInfo.markRemoved },
           (c.call { seid := s.localID, op := .remove, kind := .urr, id := id }).1,
           if (c.call { seid := s.localID, op := .remove, kind := .urr, id := id }).2.ok = true
           then some (flag usarTERMR (c.call { seid := s.localID, op := .remove, kind := .urr, id := id }).2.reports) else none)
        else (s, c, none) := by
  unfold Sess.removeURR alMod
  cases ie.id with
  | none => rfl
  | some id =>
    simp only []
    cases alGet s.urrs id with
    | none => rfl
    | some info =>
      simp only [Option.isSome_some, if_true]
      cases (c.call { seid := s.localID, op := .remove, kind := .urr, id := id }).2.ok <;> rfl

/-! ### the URR table up to reference counts: what the PDR-side methods cannot change -/

def blank (us : List (Nat × URRInfo)) : List (Nat × URRInfo) := us.map fun p => (p.1, { p.2 with refPdrNum := 0 })

theorem blank_keys (us : List (Nat × URRInfo)) : (blank us).map (·.1) = us.map (·.1) := by
  simp [blank, List.map_map, Function.comp_def]

theorem keys_of_blank {us us' : List (Nat × URRInfo)} (h : blank us' = blank us) : us'.map (·.1) = us.map (·.1) := by
  rw [← blank_keys, h, blank_keys]

theorem alGet_blank (us : List (Nat × URRInfo)) (u : Nat) :
    alGet (blank us) u = (alGet us u).map fun i => { i with refPdrNum := 0 } :=
  alGet_map us (fun _ i => { i with refPdrNum := 0 }) u

theorem blank_bumpRef (us : List (Nat × URRInfo)) (u : Nat) : blank (bumpRef us u) = blank us := by
  simp only [blank, bumpRef, List.map_map]
  apply List.map_congr_left
  intro p _
  simp only [Function.comp_apply]
  split <;> rfl

theorem blank_decRef (us : List (Nat × URRInfo)) (u : Nat) : blank (alMod us u URRInfo.decRef) = blank us := by
  unfold alMod
  cases hg : alGet us u with
  | none => rfl
  | some i => exact map_alSet _ us u i _ hg rfl

theorem blank_foldl (step : List (Nat × URRInfo) → Nat → List (Nat × URRInfo)) (hstep : ∀ l k, blank (step l k) = blank l)
    (ks : List Nat) (l : List (Nat × URRInfo)) : blank (ks.foldl step l) = blank l :=
  foldl_fixed step blank ks (fun k _ l => hstep l k) l

theorem pdrOp_blank (s : Sess) (c : Ctx) (ie : RuleIE) :
    blank (s.createPDR ie c).1.urrs = blank s.urrs ∧ blank (s.updatePDR ie c).1.urrs = blank s.urrs ∧
    blank (s.removePDR ie c).1.urrs = blank s.urrs := by
  refine ⟨blank_foldl _ blank_bumpRef _ _, ?_, ?_⟩
  · rcases updatePDR_sess s ie c with e | ⟨old, order, _, _, e⟩
    · rw [e]
    · rw [e]; exact (blank_foldl _ blank_bumpRef _ _).trans (blank_foldl _ blank_decRef _ _)
  · rcases removePDR_sess s ie c with e | ⟨_, _, order, _, _, _, e⟩
    · rw [e]
    · rw [e]; exact blank_foldl _ blank_decRef _ _

end UpfVerif.Core
