import UpfVerif.Model.Core
/-
What a computation of M-Core has added to the outputs: `Added Q c c'` says that `c'` is `c` plus outputs that each satisfy `Q`
(`Tagged`, C10's `OnlyTo` and the handlers' `Added IsDp` are of this shape); `Tagged x S c c'`: plus driver calls of session
`x` whose (operation, kind) lies in `S`; `ocount p c` counts the calls satisfying `p`, and calls outside what is counted do not
move the count (`Tagged.ocount`).  Every `Sess` method keeps its SEIDs and node and only makes calls tagged with its own SEID
(CoreDP: `Eff.ids`, `Eff.tagged`), which carries C05 (tagging), C08 (the response is the only datagram of a request) and C01.
-/
namespace UpfVerif.Core

theorem call_outs (c : Ctx) (call : DpCall) : (c.call call).1.outs = c.outs ++ [Out.dp call (c.call call).2] := by
  unfold Ctx.call; cases c.pending <;> rfl

def ocount (p : DpCall → Bool) (c : Ctx) : Nat :=
  (c.outs.filter fun o => match o with
    | .dp call _ => p call
    | _ => false).length

theorem ocount_call (p : DpCall → Bool) (c : Ctx) (call : DpCall) :
    ocount p (c.call call).1 = ocount p c + if p call then 1 else 0 := by
  unfold ocount
  rw [call_outs, List.filter_append, List.length_append]
  cases h : p call <;> simp [List.filter, h]

def Added (Q : Out → Prop) (c c' : Ctx) : Prop := ∃ l, c'.outs = c.outs ++ l ∧ ∀ o ∈ l, Q o

theorem Added.refl (Q : Out → Prop) (c : Ctx) : Added Q c c := ⟨[], by simp, fun _ ho => nomatch ho⟩

theorem Added.trans {Q : Out → Prop} {a b c : Ctx} (h1 : Added Q a b) (h2 : Added Q b c) : Added Q a c := by
  obtain ⟨l1, e1, d1⟩ := h1
  obtain ⟨l2, e2, d2⟩ := h2
  exact ⟨l1 ++ l2, by rw [e2, e1, List.append_assoc], fun o ho => (List.mem_append.mp ho).elim (d1 o) (d2 o)⟩

theorem Added.mono {Q Q' : Out → Prop} {c c' : Ctx} (h : Added Q c c') (hq : ∀ o, Q o → Q' o) : Added Q' c c' := by
  obtain ⟨l, e, d⟩ := h
  exact ⟨l, e, fun o ho => hq o (d o ho)⟩

theorem Added.mem {Q : Out → Prop} {c c' : Ctx} (h : Added Q c c') {o : Out} (ho : o ∈ c'.outs) : o ∈ c.outs ∨ Q o := by
  obtain ⟨l, e, d⟩ := h
  rw [e] at ho
  exact (List.mem_append.mp ho).imp_right (d o)

def Tagged (x : Seid) (S : List (Op × Kind)) : Ctx → Ctx → Prop :=
  Added fun o => ∃ call a, o = Out.dp call a ∧ call.seid = x ∧ (call.op, call.kind) ∈ S

theorem Tagged.call (c : Ctx) (call : DpCall) (S : List (Op × Kind)) (h : (call.op, call.kind) ∈ S) :
    Tagged call.seid S c (c.call call).1 :=
  ⟨[.dp call (c.call call).2], call_outs c call, fun _ ho => ⟨call, _, List.mem_singleton.mp ho, rfl, h⟩⟩

theorem Tagged.ocount {x : Seid} {S : List (Op × Kind)} {c c' : Ctx} (h : Tagged x S c c') (p : DpCall → Bool)
    (hp : ∀ call, call.seid = x → (call.op, call.kind) ∈ S → p call = false) : Core.ocount p c' = Core.ocount p c := by
  obtain ⟨l, e, d⟩ := h
  unfold Core.ocount
  rw [e, List.filter_append, List.length_append, Nat.add_eq_left, List.length_eq_zero_iff, List.filter_eq_nil_iff]
  intro o ho
  obtain ⟨call, a, rfl, h2, h3⟩ := d o ho
  simp [hp call h2 h3]

def DpOnly (x : Seid) (l : List Out) : Prop := ∀ o ∈ l, ∃ c a, o = Out.dp c a ∧ c.seid = x

end UpfVerif.Core
