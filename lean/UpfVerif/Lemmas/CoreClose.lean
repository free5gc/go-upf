import UpfVerif.Lemmas.CoreDP
/-
`Sess.Close` withdraws every rule of the session from the data plane — also the ones whose installation had
failed — under the fault model of C01 (a remove fails only when the rule is absent).

`Close` runs one loop for each of the five kinds (`close_eq`), over the recorded ids of that kind, in an order the environment
chooses.  A loop is a fold over some order of its keys (`closeK_perm`); each step is a removal (`Rem`: it keeps the invariant and
creates nothing, `Rem.eff`) after which its own rule is gone (`Rem.seg`); what is gone stays gone, since nothing is created
(`Seg.cons`, and along a fold `foldl_seg`: over the keys of a loop, then over the kinds); and whatever is still on the table after
a loop was recorded before, so the loop came by (`loop_seg`).
-/
namespace UpfVerif.Core
open UpfVerif.Spec

def NoCreate (l : List Out) : Prop := ∀ o ∈ l, ∀ c a, o = Out.dp c a → c.op ≠ Op.create

theorem dpRun_subset (l : List Out) (dp : DP) (hn : NoCreate l) : ∀ e, e ∈ dpRun dp l → e ∈ dp :=
  dpRun_keep (fun dp' => ∀ e, e ∈ dp' → e ∈ dp) l
    (fun c a hm dp' h e he => (mem_dpApply dp' c a e he).elim (h e) fun ⟨_, hop, _⟩ => absurd hop (hn _ hm c a rfl))
    dp fun _ => id

def Down (G : DP → Prop) : Prop := ∀ dp dp', G dp → (∀ e, e ∈ dp' → e ∈ dp) → G dp'

def Seg (G : DP → Prop) (s s' : Sess) (c c' : Ctx) : Prop :=
  s'.localID = s.localID ∧ ∃ l, c'.outs = c.outs ++ l ∧ DpOnly s.localID l ∧ NoCreate l ∧
    ∀ dp, SInv s dp → natural dp l → SInv s' (dpRun dp l) ∧ G (dpRun dp l)

theorem Seg.nil {α : Type} (G : α → DP → Prop) (s : Sess) (c : Ctx) : Seg (fun dp => ∀ a ∈ ([] : List α), G a dp) s s c c :=
  ⟨rfl, [], (List.append_nil _).symm, (fun _ ho => nomatch ho), (fun _ ho => nomatch ho), fun _ h _ => ⟨h, fun _ ha => nomatch ha⟩⟩

theorem Seg.cons {α : Type} {G : α → DP → Prop} (hd : ∀ a, Down (G a)) {a : α} {as : List α} {s s' s'' : Sess} {c c' c'' : Ctx}
    (h1 : Seg (G a) s s' c c') (h2 : Seg (fun dp => ∀ b ∈ as, G b dp) s' s'' c' c'') :
    Seg (fun dp => ∀ b ∈ a :: as, G b dp) s s'' c c'' := by
  obtain ⟨a1, l1, e1, d1, n1, p1⟩ := h1
  obtain ⟨a2, l2, e2, d2, n2, p2⟩ := h2
  refine ⟨by rw [a2, a1], l1 ++ l2, by rw [e2, e1, List.append_assoc],
    fun o ho => (List.mem_append.mp ho).elim (d1 o) (a1 ▸ d2 o), fun o ho => (List.mem_append.mp ho).elim (n1 o) (n2 o),
    fun dp hs hn => ?_⟩
  rw [natural_append] at hn
  rw [dpRun_append]
  obtain ⟨s1, g1⟩ := p1 dp hs hn.1
  obtain ⟨s2, g2⟩ := p2 _ s1 hn.2
  refine ⟨s2, fun b hb => ?_⟩
  rcases List.mem_cons.mp hb with e | e
  · rw [e]; exact hd a _ _ g1 (dpRun_subset l2 _ n2)
  · exact g2 b e

def Within (x : Seid) (K : Kind) (R : List Nat) (dp : DP) : Prop := ∀ i, (x, K, i) ∈ dp → i ∈ R

theorem within_down (x : Seid) (K : Kind) (R : List Nat) : Down (Within x K R) :=
  fun _ _ h hsub i hi => h i (hsub _ hi)

theorem Tagged.noCreate {x : Seid} {S : List (Op × Kind)} {c c' : Ctx} (h : Tagged x S c c')
    (hS : ∀ p ∈ S, p.1 ≠ .create) (l : List Out) (hl : c'.outs = c.outs ++ l) : NoCreate l := by
  obtain ⟨l', e, d⟩ := h
  have : l = l' := by rw [e] at hl; exact (List.append_cancel_left hl).symm
  subst this
  intro o ho cc a he
  obtain ⟨call, a', he', _, hm⟩ := d o ho
  rw [he] at he'; cases he'
  exact hS _ hm

theorem Rem.gone {T : List (Op × Kind)} {K : Kind} {k : Nat} {s s' : Sess} {c c' : Ctx} (h : Rem T K (some k) s c s' c')
    (hT : ∀ p ∈ T, p.1 ≠ .create) (l : List Out) (hl : c'.outs = c.outs ++ l) (dp : DP) (hs : SInv s dp) (hn : natural dp l) :
    (s.localID, K, k) ∉ dpRun dp l := by
  rcases h with ⟨hnot, rfl, rfl⟩ | ⟨k', hk, s1, hc, he⟩
  -- either the rule was not recorded, hence (`SInv`) not on the table
  · rw [List.self_eq_append_right.mp hl]
    exact fun hm => hnot k rfl (hs K k hm).1
  -- or the remove call took it out (under `natural` a remove fails only for a rule that is absent) and the calls after it create nothing
  · cases hk
    obtain ⟨l2, e2, d2⟩ := he.tagged
    have hn2 : NoCreate l2 := Tagged.noCreate ⟨l2, e2, d2⟩ hT l2 e2
    rw [e2, call_outs, List.append_assoc] at hl
    rw [← List.append_cancel_left hl, natural_append] at hn
    rw [← List.append_cancel_left hl, dpRun_append]
    exact fun hm => not_mem_dpApply_remove dp _ _ rfl (hn.1.1 rfl) (dpRun_subset l2 _ hn2 _ hm)

theorem Rem.seg {T : List (Op × Kind)} {K : Kind} {k : Nat} {s s' : Sess} {c c' : Ctx} (h : Rem T K (some k) s c s' c')
    (hT : ∀ p ∈ T, p.1 ≠ .create) : Seg (fun dp => (s.localID, K, k) ∉ dp) s s' c c' := by
  have hS : ∀ p ∈ (Op.remove, K) :: T, p.1 ≠ .create := List.forall_mem_cons.mpr ⟨nofun, hT⟩
  obtain ⟨a, l, e, d, p⟩ := h.eff.pres
  exact ⟨a, l, e, d, h.eff.tagged.noCreate hS l e, fun dp hs hn => ⟨p dp hs hn, h.gone hT l e dp hs hn⟩⟩

theorem foldl_seg {α σ : Type} (π : σ → Sess) {G : α → DP → Prop} (hd : ∀ a, Down (G a)) (step : σ × Ctx → α → σ × Ctx) (x : Seid)
    (hstep : ∀ a p, (π p.1).localID = x → Seg (G a) (π p.1) (π (step p a).1) p.2 (step p a).2) :
    ∀ (l : List α) (p : σ × Ctx), (π p.1).localID = x →
      Seg (fun dp => ∀ a ∈ l, G a dp) (π p.1) (π (l.foldl step p).1) p.2 (l.foldl step p).2
  | [], p, _ => Seg.nil G (π p.1) p.2
  | a :: l, p, hx => Seg.cons hd (hstep a p hx) (foldl_seg π hd step x hstep l (step p a) ((hstep a p hx).1.trans hx))

theorem loop_seg (x : Seid) (K : Kind) (a : Sess × List Report) (c : Ctx) (hx : a.1.localID = x) :
    Seg (Within x K []) a.1 (closeK x K a c).1.1 c (closeK x K a c).2 := by
  subst hx
  obtain ⟨order, hperm, he⟩ := closeK_perm a.1.localID K a c
  rw [he]
  obtain ⟨e, l, el, d, n, p⟩ := foldl_seg (fun a : Sess × List Report => a.1) (G := fun i dp => (a.1.localID, K, i) ∉ dp)
    (fun i dp dp' h hsub hm => h (hsub _ hm)) (fun p id => closeStep K id p.1 p.2) a.1.localID
    (fun k p hp => hp ▸ (closeStep_rem K k p.1 p.2).seg (by decide)) order (a, c) rfl
  refine ⟨e, l, el, d, n, fun dp hs hn => ⟨(p dp hs hn).1, fun i hm => ?_⟩⟩
  -- what is left was there before, so it is recorded, so the loop came by
  have hrec := (hs K i (dpRun_subset l dp n _ hm)).1
  exact absurd hm ((p dp hs hn).2 i (hperm.mem_iff.mpr hrec))

/-- dropping the packet queues does not concern the data plane -/
theorem Seg.drop_queues {G G' : DP → Prop} {s s' : Sess} {c c' : Ctx} (h : Seg G s s' c c') (hG : ∀ dp, G dp → G' dp) :
    Seg G' s { s' with q := [] } c c' :=
  ⟨h.1, h.2.imp fun _ ⟨el, dl, nl, pl⟩ => ⟨el, dl, nl, fun dp hs hn => ⟨fun k i hm => (pl dp hs hn).1 k i hm, hG _ (pl dp hs hn).2⟩⟩⟩

theorem close_clears (s : Sess) (c : Ctx) :
    Seg (fun dp => ∀ K i, (s.localID, K, i) ∉ dp) s (s.close c).1 c (s.close c).2.1 := by
  rw [close_eq]
  -- a kind once cleared stays cleared (the later loops create nothing), and every kind is one of the five that have their loop
  exact (foldl_seg (fun a : Sess × List Report => a.1) (fun K => within_down s.localID K [])
    (fun p K => closeK s.localID K p.1 p.2) s.localID (fun K p hp => loop_seg s.localID K p.1 p.2 hp)
    [Kind.far, .qer, .urr, .bar, .pdr] ((s, []), c) rfl).drop_queues fun dp h K i hm => nomatch h K (by cases K <;> decide) i hm

end UpfVerif.Core
