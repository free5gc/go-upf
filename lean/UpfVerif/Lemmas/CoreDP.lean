import UpfVerif.Spec.DataPlane
import UpfVerif.Lemmas.Core
import UpfVerif.Lemmas.CoreLoop
import UpfVerif.Lemmas.CoreCalls
import UpfVerif.Lemmas.CoreMeth
/-
The per-session half of C01's invariant: every data-plane entry tagged with a session's SEID is recorded in
that session's id maps (and a recorded URR that is still in the data plane is not marked `removed`).
`Pres s s' c c'` says a `Sess` method keeps this invariant along the driver calls it makes, for every table and
every answer stream that respects the fault model (`Spec.natural`).

Each `Sess` method is described once, by what it does as far as the data plane can tell (`Eff S s c s' c'`): it does
bookkeeping that forgets nothing (`book`); it calls the driver for a rule, a create only for a rule it has already
recorded (`call`); it makes a remove call after which that one rule, and no other, may be forgotten (`remove`).  `S` lists
the (operation, kind) pairs it may call.  From that shape follow, once each: the session keeps its SEIDs and node
(`Eff.ids`), its calls carry its SEID and lie in `S` (`Eff.tagged`), the invariant is kept (`Eff.pres`).  The three
removal methods have a sharper shape (`Rem`: nothing if the rule is not recorded, else the remove call first), from which
CoreClose reads that a rule is gone after its own removal.  The loops of the handlers and of `Close` lift the shape through
`foldl_keep`, `rangeMap_keep`, `close_keep`.
-/
namespace UpfVerif.Core
open UpfVerif.Spec

def NotRemoved (s : Sess) (i : Nat) : Prop := ∀ info, alGet s.urrs i = some info → info.removed = false

def SInv (s : Sess) (dp : DP) : Prop :=
  ∀ k i, (s.localID, k, i) ∈ dp → i ∈ s.ids k ∧ (k = Kind.urr → NotRemoved s i)

def Pres (s s' : Sess) (c c' : Ctx) : Prop :=
  s'.localID = s.localID ∧ ∃ l, c'.outs = c.outs ++ l ∧ DpOnly s.localID l ∧
    ∀ dp, SInv s dp → natural dp l → SInv s' (dpRun dp l)

theorem Pres.refl (s : Sess) (c : Ctx) : Pres s s c c :=
  ⟨rfl, [], (List.append_nil _).symm, (fun _ ho => nomatch ho), fun _ h _ => h⟩

/-- a run in two parts: what holds after the first may be assumed for the second -/
theorem dpRun_seq {A B C : DP → Prop} {l1 l2 : List Out} (h1 : ∀ dp, A dp → natural dp l1 → B (dpRun dp l1))
    (h2 : ∀ dp, B dp → natural dp l2 → C (dpRun dp l2)) (dp : DP) (ha : A dp) (hn : natural dp (l1 ++ l2)) :
    C (dpRun dp (l1 ++ l2)) := by
  rw [natural_append] at hn
  rw [dpRun_append]
  exact h2 _ (h1 dp ha hn.1) hn.2

theorem Pres.trans {s s' s'' : Sess} {c c' c'' : Ctx} (h1 : Pres s s' c c') (h2 : Pres s' s'' c' c'') :
    Pres s s'' c c'' := by
  obtain ⟨a1, l1, e1, d1, p1⟩ := h1
  obtain ⟨a2, l2, e2, d2, p2⟩ := h2
  exact ⟨by rw [a2, a1], l1 ++ l2, by rw [e2, e1, List.append_assoc],
    fun o ho => (List.mem_append.mp ho).elim (d1 o) (a1 ▸ d2 o), dpRun_seq p1 p2⟩

/-! ### facts about the table after one call -/

theorem mem_dpApply_iff (dp : DP) (c : DpCall) (a : DpAns) (e : Seid × Kind × Nat) :
    e ∈ dpApply dp c a ↔
      (e ∈ dp ∧ ¬ (a.ok = true ∧ c.op = .remove ∧ e = key c)) ∨ (a.ok = true ∧ c.op = .create ∧ e = key c) := by
  unfold dpApply
  cases a.ok <;> cases hop : c.op <;> simp
  -- left: an accepted create, which appends the key unless it is there
  · by_cases hk : key c ∈ dp
    · simp only [hk, if_true]
      exact ⟨Or.inl, fun h => h.elim id (fun h => h ▸ hk)⟩
    · simp [hk]

theorem mem_dpApply (dp : DP) (c : DpCall) (a : DpAns) (e : Seid × Kind × Nat) (h : e ∈ dpApply dp c a) :
    e ∈ dp ∨ (a.ok = true ∧ c.op = .create ∧ e = key c) :=
  ((mem_dpApply_iff dp c a e).mp h).imp_left And.left

theorem dpRun_keep (P : DP → Prop) : ∀ (l : List Out), (∀ c a, Out.dp c a ∈ l → ∀ dp, P dp → P (dpApply dp c a)) →
    ∀ dp, P dp → P (dpRun dp l)
  | [], _, _, h => h
  | .dp c a :: l, hl, dp, h =>
    dpRun_keep P l (fun c' a' hm => hl c' a' (List.mem_cons_of_mem _ hm)) _ (hl c a List.mem_cons_self dp h)
  | .send _ _ :: l, hl, dp, h => dpRun_keep P l (fun c' a' hm => hl c' a' (List.mem_cons_of_mem _ hm)) dp h

theorem not_mem_dpApply_remove (dp : DP) (c : DpCall) (a : DpAns) (hop : c.op = .remove)
    (hn : a.ok = false → key c ∉ dp) : key c ∉ dpApply dp c a := by
  rw [mem_dpApply_iff, hop]
  rintro (⟨hm, hne⟩ | ⟨_, h, _⟩)
  · cases hok : a.ok
    · exact hn hok hm
    · exact hne ⟨hok, rfl, rfl⟩
  · cases h

theorem pres_one_call (s s' : Sess) (c : Ctx) (call : DpCall) (hx : s'.localID = s.localID) (hs : call.seid = s.localID)
    (hstep : ∀ dp, SInv s dp → (call.op = .remove → (c.call call).2.ok = false → key call ∉ dp) →
      SInv s' (dpApply dp call (c.call call).2)) :
    Pres s s' c (c.call call).1 :=
  ⟨hx, [.dp call (c.call call).2], call_outs c call, fun _ ho => ⟨call, _, List.mem_singleton.mp ho, hs⟩,
    fun dp hsv hn => hstep dp hsv hn.1⟩

theorem rangeMap_pres' (x : Seid) (op : Op) (kind : Kind)
    (body : Nat → Sess → Ctx → Sess × Ctx)
    (hb : ∀ k st c, Pres st (body k st c).1 c (body k st c).2) :
    ∀ fuel keys st c, Pres st (rangeMap x op kind body fuel keys st c).1 c (rangeMap x op kind body fuel keys st c).2 :=
  fun fuel keys st c => rangeMap_keep x op kind body (fun st' c' => Pres st st' c c')
    (fun k st' c' h => h.trans (hb k st' c')) fuel keys st c (Pres.refl st c)

theorem ids_far (s : Sess) : s.ids .far = s.fars := rfl
theorem ids_qer (s : Sess) : s.ids .qer = s.qers := rfl
theorem ids_bar (s : Sess) : s.ids .bar = s.bars := rfl
theorem ids_urr (s : Sess) : s.ids .urr = s.urrs.map (·.1) := rfl
theorem ids_pdr (s : Sess) : s.ids .pdr = s.pdrs.map (·.1) := rfl

/-! ### the shape of a `Sess` method -/

def Covers (e : Option (Kind × Nat)) (s s' : Sess) : Prop :=
  s'.localID = s.localID ∧ s'.remoteID = s.remoteID ∧ s'.rnode = s.rnode ∧
  (∀ k i, some (k, i) ≠ e → i ∈ s.ids k → i ∈ s'.ids k) ∧
  (∀ i, some (Kind.urr, i) ≠ e → NotRemoved s i → NotRemoved s' i)

theorem Covers.refl (e : Option (Kind × Nat)) (s : Sess) : Covers e s s := ⟨rfl, rfl, rfl, fun _ _ _ h => h, fun _ _ h => h⟩

inductive Eff (S : List (Op × Kind)) : Sess → Ctx → Sess → Ctx → Prop
  | book {s s' : Sess} {c : Ctx} : Covers none s s' → Eff S s c s' c
  | call {s : Sess} {c : Ctx} (op : Op) (k : Kind) (id : Nat) : (op, k) ∈ S → op ≠ .remove →
      (op = .create → id ∈ s.ids k ∧ (k = .urr → NotRemoved s id)) →
      Eff S s c s (c.call { seid := s.localID, op := op, kind := k, id := id }).1
  | remove {s s' : Sess} {c : Ctx} (k : Kind) (id : Nat) : (Op.remove, k) ∈ S → Covers (some (k, id)) s s' →
      Eff S s c s' (c.call { seid := s.localID, op := .remove, kind := k, id := id }).1
  | trans {s s' s'' : Sess} {c c' c'' : Ctx} : Eff S s c s' c' → Eff S s' c' s'' c'' → Eff S s c s'' c''

theorem Eff.refl {S : List (Op × Kind)} (s : Sess) (c : Ctx) : Eff S s c s c := .book (Covers.refl _ s)

theorem Eff.mono {S T : List (Op × Kind)} (hST : ∀ p ∈ S, p ∈ T) {s s' : Sess} {c c' : Ctx} (h : Eff S s c s' c') :
    Eff T s c s' c' := by
  induction h with
  | book hc => exact .book hc
  | call op k id hS hop hrec => exact .call op k id (hST _ hS) hop hrec
  | remove k id hS hc => exact .remove k id (hST _ hS) hc
  | trans _ _ ih1 ih2 => exact ih1.trans ih2

/-! ### what follows from the shape, once -/

theorem Eff.ids {S : List (Op × Kind)} {s s' : Sess} {c c' : Ctx} (h : Eff S s c s' c') :
    s'.localID = s.localID ∧ s'.remoteID = s.remoteID ∧ s'.rnode = s.rnode := by
  induction h with
  | book hc => exact ⟨hc.1, hc.2.1, hc.2.2.1⟩
  | call op k id _ _ _ => exact ⟨rfl, rfl, rfl⟩
  | remove k id _ hc => exact ⟨hc.1, hc.2.1, hc.2.2.1⟩
  | trans _ _ ih1 ih2 => exact ⟨ih2.1.trans ih1.1, ih2.2.1.trans ih1.2.1, ih2.2.2.trans ih1.2.2⟩

theorem Eff.tagged {S : List (Op × Kind)} {s s' : Sess} {c c' : Ctx} (h : Eff S s c s' c') : Tagged s.localID S c c' := by
  induction h with
  | book _ => exact Added.refl _ _
  | call op k id hS _ _ => exact Tagged.call _ _ S hS
  | remove k id hS _ => exact Tagged.call _ _ S hS
  | trans h1 _ ih1 ih2 => rw [h1.ids.1] at ih2; exact Added.trans ih1 ih2

theorem Covers.sinv_except {e : Option (Kind × Nat)} {s s' : Sess} (hc : Covers e s s') {dp dp' : DP}
    (hsub : ∀ k i, (s.localID, k, i) ∈ dp' → (s.localID, k, i) ∈ dp ∧ some (k, i) ≠ e) (h : SInv s dp) : SInv s' dp' := by
  intro k i hm
  rw [hc.1] at hm
  obtain ⟨hin, hne⟩ := hsub k i hm
  obtain ⟨h1, h2⟩ := h k i hin
  exact ⟨hc.2.2.2.1 k i hne h1, fun hk => hc.2.2.2.2 i (hk ▸ hne) (h2 hk)⟩

theorem Covers.sinv {s s' : Sess} (hc : Covers none s s') (dp : DP) (h : SInv s dp) : SInv s' dp :=
  hc.sinv_except (fun _ _ hm => ⟨hm, nofun⟩) h

theorem Eff.pres {S : List (Op × Kind)} {s s' : Sess} {c c' : Ctx} (h : Eff S s c s' c') : Pres s s' c c' := by
  induction h with
  | book hc => exact ⟨hc.1, [], (List.append_nil _).symm, (fun _ ho => nomatch ho), fun dp h _ => hc.sinv dp h⟩
  | @call s c op k id _ hop hrec =>
    apply pres_one_call s s c _ rfl rfl
    intro dp hs _ k' i hm
    rcases mem_dpApply dp _ _ _ hm with hin | ⟨_, hcr, he⟩
    · exact hs k' i hin
    · cases he; exact hrec hcr
  | @remove s s' c k id _ hc =>
    apply pres_one_call s s' c _ hc.1 rfl
    intro dp hs hnat
    -- accepted or not, the rule is off the table afterwards (`hnat`: a remove fails only for an absent rule), so `s'` may forget it
    refine hc.sinv_except (fun k' i hm => ?_) hs
    rcases mem_dpApply dp _ _ _ hm with hin | ⟨_, hcr, _⟩
    · exact ⟨hin, fun he => not_mem_dpApply_remove dp _ _ rfl (hnat rfl) (by cases he; exact hm)⟩
    · cases hcr
  | trans _ _ ih1 ih2 => exact ih1.trans ih2

/-! ### bookkeeping steps -/

theorem covers_urrs (e : Option (Kind × Nat)) (s : Sess) (us : List (Nat × URRInfo))
    (hk : ∀ i, some (Kind.urr, i) ≠ e → i ∈ s.urrs.map (·.1) → i ∈ us.map (·.1))
    (hr : ∀ i info, some (Kind.urr, i) ≠ e → alGet us i = some info → info.removed = true →
      ∃ info0, alGet s.urrs i = some info0 ∧ info0.removed = true) :
    Covers e s { s with urrs := us } := by
  refine ⟨rfl, rfl, rfl, fun k i hne hi => ?_, fun i hne hn info hinfo => ?_⟩
  · cases k with
    | urr => exact hk i hne hi
    | _ => exact hi
  · cases hrm : info.removed with
    | false => rfl
    | true =>
      obtain ⟨info0, h0, hr0⟩ := hr i info hne hinfo hrm
      rw [← hr0]; exact hn info0 h0

theorem covers_urr_set (e : Option (Kind × Nat)) (s : Sess) (u : Nat) (info' : URRInfo)
    (hr : some (Kind.urr, u) ≠ e → info'.removed = true → ∃ info, alGet s.urrs u = some info ∧ info.removed = true) :
    Covers e s { s with urrs := alSet s.urrs u info' } := by
  apply covers_urrs
  · intro i _ hi; exact (keys_alSet _ _ _ _).mpr (Or.inr hi)
  · intro i inf hne hinf hrm
    by_cases hi : i = u
    · subst hi
      rw [alGet_alSet_self] at hinf; cases hinf
      exact hr hne hrm
    · rw [alGet_alSet_other _ _ _ _ hi] at hinf
      exact ⟨inf, hinf, hrm⟩

theorem covers_bump (s : Sess) (l : List Nat) : Covers none s { s with urrs := l.foldl bumpRef s.urrs } := by
  apply covers_urrs
  · intro i _ hi; rw [foldl_bumpRef_keys]; exact hi
  · intro i info _ hinfo hrm
    -- `bumpRef` moves the reference counts only
    rw [alGet_foldl_bumpRef] at hinfo
    cases h0 : alGet s.urrs i with
    | none => rw [h0] at hinfo; cases hinfo
    | some info0 => rw [h0] at hinfo; cases hinfo; exact ⟨info0, rfl, hrm⟩

theorem covers_pdr_set (s : Sess) (p : Nat) (us : List Nat) : Covers none s { s with pdrs := alSet s.pdrs p us } := by
  refine ⟨rfl, rfl, rfl, fun k i _ hi => ?_, fun i _ hn => hn⟩
  cases k with
  | pdr => exact (keys_alSet _ _ _ _).mpr (Or.inr hi)
  | _ => exact hi

theorem push_covers (s : Sess) (qlen pdr : Nat) (pkt : Bytes) : Covers none s (s.push qlen pdr pkt) := by
  unfold Sess.push
  simp only []
  split <;> exact Covers.refl _ s   -- only the queues differ, and `Covers` does not look at them

/-! ### one `_eff` lemma per method -/

theorem eff_record_create (s s' : Sess) (c : Ctx) (k : Kind) (id : Nat) (hc : Covers none s s') (hrec : id ∈ s'.ids k)
    (hu : k = .urr → NotRemoved s' id) :
    Eff [(.create, k)] s c s' (c.call { seid := s.localID, op := .create, kind := k, id := id }).1 := by
  rw [← hc.1]
  exact (Eff.book hc).trans (.call .create k id List.mem_cons_self nofun (fun _ => ⟨hrec, hu⟩))

theorem createSimple_eff (s : Sess) (k : Kind) (hk : k = .far ∨ k = .qer ∨ k = .bar) (ie : RuleIE) (c : Ctx) :
    Eff [(.create, k)] s c (s.createSimple k ie c).1 (s.createSimple k ie c).2 := by
  unfold Sess.createSimple
  cases ie.id with
  | none => exact Eff.refl s c
  | some id =>
    rcases hk with h | h | h <;> subst h <;>
    · -- the id list of that kind grew, nothing else changed
      refine eff_record_create s _ c _ id ⟨rfl, rfl, rfl, fun k' i _ hi => ?_, fun i _ hn => hn⟩
        ((mem_setIns _ _ _).mpr (Or.inl rfl)) (fun h => by cases h)
      cases k' <;> first | exact hi | exact (mem_setIns _ _ _).mpr (Or.inr hi)

theorem updateSimple_eff (s : Sess) (k : Kind) (ie : RuleIE) (c : Ctx) :
    Eff [(.update, k)] s c (s.updateSimple k ie c).1 (s.updateSimple k ie c).2 := by
  unfold Sess.updateSimple
  cases ie.id with
  | none => exact Eff.refl s c
  | some id =>
    simp only []
    split
    · exact .call .update k id List.mem_cons_self nofun (fun h => by cases h)
    · exact Eff.refl s c

theorem createPDR_eff (s : Sess) (ie : RuleIE) (c : Ctx) :
    Eff [(.create, .pdr)] s c (s.createPDR ie c).1 (s.createPDR ie c).2 := by
  unfold Sess.createPDR
  exact (Eff.book (covers_bump s _)).trans
    (eff_record_create _ _ c .pdr _ (covers_pdr_set _ _ _) ((keys_alSet _ _ _ _).mpr (Or.inl rfl)) (fun h => by cases h))

theorem createURR_eff (s : Sess) (ie : RuleIE) (c : Ctx) :
    Eff [(.create, .urr)] s c (s.createURR ie c).1 (s.createURR ie c).2 := by
  unfold Sess.createURR
  cases ie.id with
  | none => exact Eff.refl s c
  | some id =>
    -- the fresh entry is not marked removed
    refine eff_record_create s _ c .urr id (covers_urr_set none s id _ (fun _ hrm => by cases hrm))
      ((keys_alSet _ _ _ _).mpr (Or.inl rfl)) (fun _ info hinfo => ?_)
    rw [alGet_alSet_self] at hinfo; cases hinfo; rfl

theorem diassociate_eff (s : Sess) (u : Nat) (c : Ctx) :
    Eff [(.query, .urr)] s c (s.diassociate u c).1 (s.diassociate u c).2.1 := by
  rw [diassociate_eq]
  have hb : Eff [(.query, .urr)] s c { s with urrs := alMod s.urrs u URRInfo.decRef } c := by
    unfold alMod
    cases hg : alGet s.urrs u with
    | none => exact Eff.refl s c
    | some info => exact .book (covers_urr_set none s u _ fun _ hrm => ⟨info, hg, hrm⟩)
  simp only []
  split
  · exact hb.trans (.call .query .urr u List.mem_cons_self nofun (fun h => by cases h))
  · exact hb

theorem diassociateAll_eff (s : Sess) (us : List Nat) (c : Ctx) :
    Eff [(.query, .urr)] s c (s.diassociateAll us c).1 (s.diassociateAll us c).2.1 :=
  rangeMap_keep s.localID .query .urr _ (fun (a : Sess × List Report) c' => Eff [(.query, .urr)] s c a.1 c')
    (fun u a c' h => h.trans (diassociate_eff a.1 u c')) _ _ (s, []) c (Eff.refl s c)

theorem updatePDR_eff (s : Sess) (ie : RuleIE) (c : Ctx) :
    Eff [(.update, .pdr), (.query, .urr)] s c (s.updatePDR ie c).1 (s.updatePDR ie c).2.1 := by
  rw [updatePDR_eq]
  split
  · exact Eff.refl s c
  · rename_i old _
    have h1 : Eff [(.update, .pdr), (.query, .urr)] s c s _ :=
      .call .update .pdr (ie.id.getD 0) List.mem_cons_self nofun (fun h => by cases h)
    split
    · have h2 := (diassociateAll_eff s (old.filter (· ∉ ie.urrs.eraseDups))
        (c.call { seid := s.localID, op := .update, kind := .pdr, id := ie.id.getD 0 }).1).mono
        (T := [(.update, .pdr), (.query, .urr)]) (fun _ h => List.mem_cons_of_mem _ h)
      exact (h1.trans h2).trans ((Eff.book (covers_bump _ _)).trans (.book (covers_pdr_set _ _ _)))
    · exact h1

theorem updateURR_eff (s : Sess) (ie : RuleIE) (c : Ctx) :
    Eff [(.update, .urr)] s c (s.updateURR ie c).1 (s.updateURR ie c).2.1 := by
  unfold Sess.updateURR
  split
  · exact Eff.refl s c
  · rename_i id _
    split
    · exact Eff.refl s c
    · rename_i info hget
      have := (Eff.book (S := [(.update, .urr)]) (c := c) (covers_urr_set none s id _ fun _ hrm => ⟨info, hget, (applyUpdate_frame info ie).1 ▸ hrm⟩)).trans
        (.call .update .urr id List.mem_cons_self nofun (fun h => by cases h))
      simp only []
      split <;> exact this

theorem queryURR_eff (s : Sess) (ie : RuleIE) (c : Ctx) :
    Eff [(.query, .urr)] s c (s.queryURR ie c).1 (s.queryURR ie c).2.1 := by
  unfold Sess.queryURR
  split
  · exact Eff.refl s c
  · rename_i id _
    split
    · exact Eff.refl s c
    · have : Eff [(.query, .urr)] s c s _ := .call .query .urr id List.mem_cons_self nofun (fun h => by cases h)
      simp only []
      split <;> exact this

/-! ### the removal methods -/

def Rem (T : List (Op × Kind)) (K : Kind) (ko : Option Nat) (s : Sess) (c : Ctx) (s' : Sess) (c' : Ctx) : Prop :=
  ((∀ k ∈ ko, k ∉ s.ids K) ∧ s' = s ∧ c' = c) ∨
  ∃ k ∈ ko, ∃ s1, Covers (some (K, k)) s s1 ∧
    Eff T s1 (c.call { seid := s.localID, op := .remove, kind := K, id := k }).1 s' c'

theorem Rem.eff {T : List (Op × Kind)} {K : Kind} {ko : Option Nat} {s s' : Sess} {c c' : Ctx} (h : Rem T K ko s c s' c') :
    Eff ((.remove, K) :: T) s c s' c' := by
  rcases h with ⟨_, rfl, rfl⟩ | ⟨k, _, s1, hc, he⟩
  · exact Eff.refl _ _
  · exact (Eff.remove K k List.mem_cons_self hc).trans (he.mono fun _ h => List.mem_cons_of_mem _ h)

theorem removeSimple_rem (s : Sess) (K : Kind) (ie : RuleIE) (c : Ctx) :
    Rem [] K ie.id s c (s.removeSimple K ie c).1 (s.removeSimple K ie c).2 := by
  unfold Sess.removeSimple
  cases ie.id with
  | none => exact .inl ⟨nofun, rfl, rfl⟩
  | some id =>
    simp only []
    split
    · split
      · -- accepted: the id leaves its list, everything else stays
        refine .inr ⟨id, rfl, _, ?_, Eff.refl _ _⟩
        cases K with
        | pdr | urr => exact Covers.refl _ s   -- no list is kept for these kinds: the session stays as it is
        | far | qer | bar =>
          refine ⟨rfl, rfl, rfl, fun k' i hne hi => ?_, fun i _ hn => hn⟩
          cases k' <;> first | exact hi | exact List.mem_filter.mpr ⟨hi, bne_iff_ne.mpr fun e => hne (by rw [e])⟩
      · exact .inr ⟨id, rfl, s, Covers.refl _ s, Eff.refl _ _⟩
    · rename_i hnot
      exact .inl ⟨fun k hk => by cases hk; exact hnot, rfl, rfl⟩

theorem removeURR_rem (s : Sess) (ie : RuleIE) (c : Ctx) :
    Rem [] .urr ie.id s c (s.removeURR ie c).1 (s.removeURR ie c).2.1 := by
  unfold Sess.removeURR
  cases ie.id with
  | none => exact .inl ⟨nofun, rfl, rfl⟩
  | some id =>
    simp only []
    split
    · rename_i hnone
      exact .inl ⟨fun k hk => by cases hk; exact (alGet_eq_none _ _).mp hnone, rfl, rfl⟩
    · -- the mark is set on the very URR the call removes
      rename_i info _
      have : Rem [] .urr (some id) s c { s with urrs := alSet s.urrs id { info with removed := true } } _ :=
        .inr ⟨id, rfl, _, covers_urr_set _ s id _ fun hne _ => absurd rfl hne, Eff.refl _ _⟩
      split <;> exact this

theorem removePDR_rem (s : Sess) (ie : RuleIE) (c : Ctx) :
    Rem [(.query, .urr)] .pdr ie.id s c (s.removePDR ie c).1 (s.removePDR ie c).2.1 := by
  unfold Sess.removePDR
  cases ie.id with
  | none => exact .inl ⟨nofun, rfl, rfl⟩
  | some pdrid =>
    simp only []
    split
    · rename_i hnone
      exact .inl ⟨fun k hk => by cases hk; exact (alGet_eq_none _ _).mp hnone, rfl, rfl⟩
    · rename_i us _
      split
      · exact .inr ⟨pdrid, rfl, s, Covers.refl _ s, Eff.refl _ _⟩
      · refine .inr ⟨pdrid, rfl, { s with pdrs := alDel s.pdrs pdrid, q := alDel s.q pdrid },
          ⟨rfl, rfl, rfl, fun k i hne hi => ?_, fun i _ hn => hn⟩, diassociateAll_eff _ us _⟩
        cases k with
        | pdr => exact (keys_alDel _ _ _).mpr ⟨fun e => hne (by rw [e]), hi⟩
        | _ => exact hi

theorem removeSimple_eff (s : Sess) (k : Kind) (ie : RuleIE) (c : Ctx) :
    Eff [(.remove, k)] s c (s.removeSimple k ie c).1 (s.removeSimple k ie c).2 := (removeSimple_rem s k ie c).eff

theorem removeURR_eff (s : Sess) (ie : RuleIE) (c : Ctx) :
    Eff [(.remove, .urr)] s c (s.removeURR ie c).1 (s.removeURR ie c).2.1 := (removeURR_rem s ie c).eff

theorem removePDR_eff (s : Sess) (ie : RuleIE) (c : Ctx) :
    Eff [(.remove, .pdr), (.query, .urr)] s c (s.removePDR ie c).1 (s.removePDR ie c).2.1 := (removePDR_rem s ie c).eff

/-! ### the handlers' loops -/

def anyCall : List (Op × Kind) :=
  [.create, .update, .remove, .query].flatMap fun o => [.pdr, .far, .qer, .urr, .bar].map (o, ·)

theorem Eff.any {S : List (Op × Kind)} {s s' : Sess} {c c' : Ctx} (h : Eff S s c s' c') : Eff anyCall s c s' c' :=
  h.mono fun p _ => List.mem_flatMap.mpr ⟨p.1, by cases p.1 <;> decide, List.mem_map.mpr ⟨p.2, by cases p.2 <;> decide, rfl⟩⟩

def StageEff (st : Stage) : Prop := ∀ s c rs, Eff anyCall s c (st s c rs).1 (st s c rs).2.1

theorem liftS_eff {S : List (Op × Kind)} (f : Sess → RuleIE → Ctx → Sess × Ctx)
    (hf : ∀ s ie c, Eff S s c (f s ie c).1 (f s ie c).2) (ies : List RuleIE) : StageEff (liftS f ies) := fun s c _ =>
  foldl_keep _ (fun (a : Sess × Ctx) => Eff anyCall s c a.1 a.2) (fun a ie h => h.trans (hf a.1 ie a.2).any) ies (s, c)
    (Eff.refl s c)

theorem liftR_eff {S : List (Op × Kind)} (f : Sess → RuleIE → Ctx → Sess × Ctx × List Report)
    (hf : ∀ s ie c, Eff S s c (f s ie c).1 (f s ie c).2.1) (ies : List RuleIE) : StageEff (liftR f ies) := fun s c rs =>
  foldl_keep (fun (a : Sess × Ctx × List Report) ie => ((f a.1 ie a.2.1).1, (f a.1 ie a.2.1).2.1, a.2.2 ++ (f a.1 ie a.2.1).2.2))
    (fun a => Eff anyCall s c a.1 a.2.1) (fun a ie h => h.trans (hf a.1 ie a.2.1).any) ies (s, c, rs) (Eff.refl s c)

theorem runStages_eff (stages : List Stage) (h : ∀ st ∈ stages, StageEff st) (s : Sess) (c : Ctx) (rs : List Report) :
    Eff anyCall s c (runStages stages s c rs).1 (runStages stages s c rs).2.1 :=
  stages.foldlRecOn (motive := fun (a : Sess × Ctx × List Report) => Eff anyCall s c a.1 a.2.1) _ (Eff.refl s c)
    fun a ha st hst => ha.trans (h st hst a.1 a.2.1 a.2.2)

theorem modStages_eff (r : ModReq) : ∀ st ∈ modStages r, StageEff st := by
  simp only [modStages, List.forall_mem_cons, List.not_mem_nil, false_imp_iff, implies_true, and_true]
  exact ⟨
    liftS_eff _ (fun s ie c => createSimple_eff s .far (Or.inl rfl) ie c) _,
    liftS_eff _ (fun s ie c => createSimple_eff s .qer (Or.inr (Or.inl rfl)) ie c) _,
    liftS_eff _ (fun s ie c => createURR_eff s ie c) _,
    liftS_eff _ (fun s ie c => createSimple_eff s .bar (Or.inr (Or.inr rfl)) ie c) _,
    liftS_eff _ (fun s ie c => createPDR_eff s ie c) _,
    liftS_eff _ (fun s ie c => removeSimple_eff s .far ie c) _,
    liftS_eff _ (fun s ie c => removeSimple_eff s .qer ie c) _,
    liftR_eff _ (fun s ie c => removeURR_eff s ie c) _,
    liftS_eff _ (fun s ie c => removeSimple_eff s .bar ie c) _,
    liftR_eff _ (fun s ie c => removePDR_eff s ie c) _,
    liftS_eff _ (fun s ie c => updateSimple_eff s .far ie c) _,
    liftS_eff _ (fun s ie c => updateSimple_eff s .qer ie c) _,
    liftR_eff _ (fun s ie c => updateURR_eff s ie c) _,
    liftS_eff _ (fun s ie c => updateSimple_eff s .bar ie c) _,
    liftR_eff _ (fun s ie c => updatePDR_eff s ie c) _,
    liftR_eff _ (fun s ie c => queryURR_eff s ie c) _⟩

/-- the loops of an establishment are the create loops of a modification -/
theorem estStages_eq (r : EstReq) :
    estStages r = (modStages { seid := 0, cfar := r.far, cqer := r.qer, curr := r.urr, cbar := r.bar, cpdr := r.pdr }).take 5 := rfl

theorem estStages_eff (r : EstReq) : ∀ st ∈ estStages r, StageEff st := fun st hst =>
  modStages_eff _ st (List.mem_of_mem_take (estStages_eq r ▸ hst))

theorem Rem.mono {S T : List (Op × Kind)} {K : Kind} {ko : Option Nat} {s s' : Sess} {c c' : Ctx} (h : Rem S K ko s c s' c')
    (hST : ∀ p ∈ S, p ∈ T) : Rem T K ko s c s' c' :=
  h.imp_right fun ⟨k, hk, s1, hc, he⟩ => ⟨k, hk, s1, hc, he.mono hST⟩

theorem closeStep_rem (K : Kind) (id : Nat) (a : Sess × List Report) (c : Ctx) :
    Rem [(.query, .urr)] K (some id) a.1 c (closeStep K id a c).1.1 (closeStep K id a c).2 := by
  unfold closeStep
  cases K with
  | pdr => exact removePDR_rem a.1 { id := some id } c
  | urr => exact (removeURR_rem a.1 { id := some id } c).mono fun _ h => nomatch h
  | _ => exact (removeSimple_rem a.1 _ { id := some id } c).mono fun _ h => nomatch h

def closeCalls : List (Op × Kind) := [(.remove, .far), (.remove, .qer), (.remove, .urr), (.remove, .bar), (.remove, .pdr), (.query, .urr)]

theorem close_eff (s : Sess) (c : Ctx) : Eff closeCalls s c (s.close c).1 (s.close c).2.1 :=
  close_keep (fun s' c' _ => Eff closeCalls s c s' c')
    (fun K id a c' h => h.trans ((closeStep_rem K id a c').eff.mono (by cases K <;> decide)))
    (fun s' c' _ h => h.trans (.book (Covers.refl _ s')))   -- emptying the queues, which `Covers` does not look at
    s c (Eff.refl s c)

/-! ### the emission loop -/

theorem emitOne_sinv (s : Sess) (r : Report) (x : BitVec 32) (b : Bool) (dp : DP) (h : SInv s dp) :
    SInv (emitOne s r x b).1 dp := by
  unfold emitOne
  split
  · exact h
  · rename_i info hget
    simp only []
    split
    · rename_i hdrop
      have hrm : info.removed = true := (Bool.and_eq_true _ _ ▸ hdrop).2
      have hc : Covers (some (.urr, r.urr)) s { s with urrs := alDel s.urrs r.urr } :=
        covers_urrs _ s _ (fun i hne hi => (keys_alDel _ _ _).mpr ⟨fun e => hne (by rw [e]), hi⟩)
          fun i inf hne hinf hrm' => ⟨inf, by rwa [alGet_alDel_other _ _ _ fun e => hne (by rw [e])] at hinf, hrm'⟩
      -- the one entry dropped is marked removed, so by the invariant its rule is not on the table
      refine hc.sinv_except (fun k i hm => ⟨hm, fun he => ?_⟩) h
      cases he
      have := (h _ _ hm).2 rfl info hget
      rw [hrm] at this; cases this
    · exact (covers_urr_set none s r.urr { info with seqn := info.seqn + 1 } fun _ hrm => ⟨info, hget, hrm⟩).sinv dp h

theorem emitUsars_sinv (s : Sess) (rs : List Report) (x : BitVec 32) (b : Bool) (dp : DP) (h : SInv s dp) :
    SInv (emitUsars s rs x b).1 dp := by
  induction rs generalizing s with
  | nil => exact h
  | cons r rs ih =>
    unfold emitUsars
    exact ih _ (emitOne_sinv s r x b dp h)

end UpfVerif.Core
