import UpfVerif.Model.FlowDesc
/- string lemmas for C16: `strings.Fields` on joined tokens, `ParseUint` on digit lists, splitting on a separator -/
namespace UpfVerif.FlowDesc

/-! ### strings.Fields -/

def allSpace (s : Str) : Prop := ∀ c ∈ s, isSpace c = true
/-- reducible, so that `decide` settles it on a keyword -/
abbrev noSpace (s : Str) : Prop := ∀ c ∈ s, isSpace c = false

theorem fieldsAux_spaces (p rest : Str) (hp : allSpace p) : fieldsAux (p ++ rest) [] = fieldsAux rest [] := by
  induction p with
  | nil => rfl
  | cons c p ih =>
    obtain ⟨hc, hp⟩ := List.forall_mem_cons.mp hp
    simp only [List.cons_append, fieldsAux, hc, if_true, List.isEmpty_nil]
    exact ih hp

theorem fieldsAux_token (t rest cur : Str) (ht : noSpace t) :
    fieldsAux (t ++ rest) cur = fieldsAux rest (t.reverse ++ cur) := by
  induction t generalizing cur with
  | nil => rfl
  | cons c t ih =>
    obtain ⟨hc, ht⟩ := List.forall_mem_cons.mp ht
    simp only [List.cons_append, fieldsAux, hc, Bool.false_eq_true, if_false]
    rw [ih _ ht]
    simp

/-- tokens each followed by a run of white space (the last run may be empty) -/
def joinToks : List (Str × Str) → Str
  | [] => []
  | (t, sp) :: rest => t ++ sp ++ joinToks rest

theorem fieldsAux_token_spaces (t sp rest : Str) (hne : t ≠ []) (hns : noSpace t) (hsp : allSpace sp)
    (hend : sp = [] → rest = []) : fieldsAux (t ++ sp ++ rest) [] = t :: fieldsAux rest [] := by
  have hemp : t.reverse.isEmpty = false := by rwa [List.isEmpty_reverse, List.isEmpty_eq_false_iff]
  rw [List.append_assoc, fieldsAux_token t _ [] hns, List.append_nil]
  -- the scan holds `t` (reversed, not empty) and emits it at the first space, or at the end of the input if none follows
  cases sp with
  | nil =>
    rw [hend rfl]
    simp only [List.append_nil, fieldsAux, hemp, Bool.false_eq_true, if_false, List.reverse_reverse, List.isEmpty_nil, if_true]
  | cons c sp =>
    obtain ⟨hc, hsp⟩ := List.forall_mem_cons.mp hsp
    simp only [List.cons_append, fieldsAux, hc, if_true, hemp, Bool.false_eq_true, if_false, List.reverse_reverse]
    rw [fieldsAux_spaces sp rest hsp]

/-! ### strconv.ParseUint on digit lists -/

def digitChar (d : Fin 10) : Char := Char.ofNat (48 + d.val)

def digitsVal (ds : List (Fin 10)) : Nat := ds.foldl (fun acc d => acc * 10 + d.val) 0

def digitsStr (ds : List (Fin 10)) : Str := ds.map digitChar

theorem isDigit_digitChar : ∀ d : Fin 10, isDigit (digitChar d) = true := by decide
theorem digitVal_digitChar : ∀ d : Fin 10, digitVal (digitChar d) = d.val := by decide
theorem isSpace_digitChar : ∀ d : Fin 10, isSpace (digitChar d) = false := by decide

theorem all_digitsStr (P : Char → Prop) (hP : ∀ d : Fin 10, P (digitChar d)) (ds : List (Fin 10)) :
    ∀ c ∈ digitsStr ds, P c :=
  List.forall_mem_map.mpr fun d _ => hP d

theorem digitsStr_ne_nil {ds : List (Fin 10)} (hne : ds ≠ []) : digitsStr ds ≠ [] :=
  fun h => hne (List.map_eq_nil_iff.mp h)

theorem foldl_digitsStr (ds : List (Fin 10)) (acc : Nat) :
    (digitsStr ds).foldl (fun a c => a * 10 + digitVal c) acc = ds.foldl (fun a d => a * 10 + d.val) acc := by
  induction ds generalizing acc with
  | nil => rfl
  | cons d ds ih => simp only [digitsStr, List.map_cons, List.foldl_cons, digitVal_digitChar]; exact ih _

/-- the three things both `parseUint` and `parseOctet` ask of their input, on a digit string -/
theorem digitsStr_scan (ds : List (Fin 10)) (hne : ds ≠ []) :
    (digitsStr ds).isEmpty = false ∧ (digitsStr ds).all isDigit = true ∧
      (digitsStr ds).foldl (fun acc c => acc * 10 + digitVal c) 0 = digitsVal ds :=
  ⟨List.isEmpty_eq_false_iff.mpr (digitsStr_ne_nil hne), List.all_eq_true.mpr (all_digitsStr _ isDigit_digitChar ds),
    foldl_digitsStr ds 0⟩

theorem parseUint_digits (ds : List (Fin 10)) (hne : ds ≠ []) (bits : Nat) :
    parseUint (digitsStr ds) bits = if digitsVal ds < 2 ^ bits then some (digitsVal ds) else none := by
  obtain ⟨h1, h2, h3⟩ := digitsStr_scan ds hne
  simp only [parseUint, h1, h2, h3, Bool.false_eq_true, if_false, if_true]

theorem parseOctet_digits (ds : List (Fin 10)) (hne : ds ≠ []) :
    parseOctet (digitsStr ds) =
      if ds.length > 1 && ds.head? == some 0 then none else if digitsVal ds ≤ 255 then some (digitsVal ds) else none := by
  obtain ⟨h1, h2, h3⟩ := digitsStr_scan ds hne
  have h4 : (digitsStr ds).length = ds.length := List.length_map _
  have h5 : ((digitsStr ds).head? == some '0') = (ds.head? == some 0) := by
    cases ds with
    | nil => rfl
    | cons d ds => exact (by decide : ∀ d : Fin 10, (some (digitChar d) == some '0') = (some d == some 0)) d
  simp only [parseOctet, h1, h2, h3, h4, h5, Bool.false_eq_true, if_false, Bool.not_true]

/-! ### splitting on a separator -/

def noChar (sep : Char) (s : Str) : Prop := ∀ c ∈ s, (c == sep) = false

theorem digitChar_bne {sep : Char} (hsep : isDigit sep = false) (d : Fin 10) : (digitChar d == sep) = false := by
  rw [beq_eq_false_iff_ne]
  intro h
  rw [← h, isDigit_digitChar] at hsep
  cases hsep

theorem noChar_digitsStr {sep : Char} (hsep : isDigit sep = false) (ds : List (Fin 10)) : noChar sep (digitsStr ds) :=
  all_digitsStr _ (digitChar_bne hsep) ds

theorem splitOn_token (sep : Char) (t rest cur : Str) (ht : noChar sep t) :
    splitOn sep (t ++ rest) cur = splitOn sep rest (t.reverse ++ cur) := by
  induction t generalizing cur with
  | nil => rfl
  | cons c t ih =>
    obtain ⟨hc, ht⟩ := List.forall_mem_cons.mp ht
    simp only [List.cons_append, splitOn, hc, Bool.false_eq_true, if_false]
    rw [ih _ ht]
    simp

def joinSep (sep : Char) : List Str → Str
  | [] => []
  | [t] => t
  | t :: rest => t ++ sep :: joinSep sep rest

theorem splitOn_joinSep (sep : Char) : ∀ (items : List Str), items ≠ [] → (∀ t ∈ items, noChar sep t) →
    splitOn sep (joinSep sep items) [] = items
  | [], h, _ => absurd rfl h
  | [t], _, hn => by
    have := splitOn_token sep t [] [] (hn t (by simp))
    simp only [List.append_nil] at this
    simp [joinSep, this, splitOn]
  | t :: t2 :: rest, _, hn => by
    obtain ⟨ht, hn⟩ := List.forall_mem_cons.mp hn
    simp only [joinSep]
    rw [splitOn_token sep t _ [] ht, List.append_nil]
    simp only [splitOn, beq_self_eq_true, if_true, List.reverse_reverse]
    rw [splitOn_joinSep sep (t2 :: rest) (List.cons_ne_nil _ _) hn]

theorem cutDash_nodash (t cur : Str) (ht : noChar '-' t) : cutDash t cur = (cur.reverse ++ t, none) := by
  induction t generalizing cur with
  | nil => simp [cutDash]
  | cons c t ih =>
    obtain ⟨hc, ht⟩ := List.forall_mem_cons.mp ht
    simp only [cutDash, hc, Bool.false_eq_true, if_false]
    rw [ih _ ht]
    simp

theorem cutDash_dash (a b cur : Str) (ha : noChar '-' a) : cutDash (a ++ '-' :: b) cur = (cur.reverse ++ a, some b) := by
  induction a generalizing cur with
  | nil => simp [cutDash]
  | cons c a ih =>
    obtain ⟨hc, ha⟩ := List.forall_mem_cons.mp ha
    simp only [List.cons_append, cutDash, hc, Bool.false_eq_true, if_false]
    rw [ih _ ha]
    simp

theorem cutSlash_noslash (t cur : Str) (ht : noChar '/' t) : cutSlash t cur = none := by
  induction t generalizing cur with
  | nil => rfl
  | cons c t ih =>
    obtain ⟨hc, ht⟩ := List.forall_mem_cons.mp ht
    simp only [cutSlash, hc, Bool.false_eq_true, if_false]
    exact ih _ ht

theorem cutSlash_slash (a b cur : Str) (ha : noChar '/' a) : cutSlash (a ++ '/' :: b) cur = some (cur.reverse ++ a, b) := by
  induction a generalizing cur with
  | nil => simp [cutSlash]
  | cons c a ih =>
    obtain ⟨hc, ha⟩ := List.forall_mem_cons.mp ha
    simp only [List.cons_append, cutSlash, hc, Bool.false_eq_true, if_false]
    rw [ih _ ha]
    simp

theorem addrClass_prefix (t rest : Str) (h1 : noChar '.' t) (h2 : noChar ':' t) (h3 : noChar '%' t) :
    addrClass (t ++ '.' :: rest) = .v4 := by
  induction t with
  | nil => simp [addrClass]
  | cons c t ih =>
    obtain ⟨a1, h1⟩ := List.forall_mem_cons.mp h1
    obtain ⟨a2, h2⟩ := List.forall_mem_cons.mp h2
    obtain ⟨a3, h3⟩ := List.forall_mem_cons.mp h3
    simp only [List.cons_append, addrClass, a1, a2, a3, Bool.false_eq_true, if_false, Bool.or_self]
    exact ih h1 h2 h3

end UpfVerif.FlowDesc
