import UpfVerif.Model.Flags
/-
Bit-level lemmas about the flag words of Model/Flags: the test `flags & c != 0` on one bit and under `|=`; little-endian
words (`leWord`: its bits, its octets, its value `leNat`; `ApplyAction.Unmarshal` and `ReportingTrigger.Unmarshal` are
`leWord` at 16 and 32 bits); big-endian octets (`beBytes`, read back).
-/
namespace UpfVerif.Bits
open UpfVerif.Flags

theorem ofNat_two_pow (w k : Nat) : BitVec.ofNat w (2 ^ k) = BitVec.twoPow w k := by
  apply BitVec.eq_of_toNat_eq
  simp [BitVec.toNat_twoPow]

theorem test_two_pow {w : Nat} (f : BitVec w) (k : Nat) (hk : k < w) :
    test f (2 ^ k) = f.getLsbD k := by
  unfold test
  rw [ofNat_two_pow, BitVec.and_twoPow]
  cases f.getLsbD k
  · rfl
  · -- `twoPow w k` is not zero: its value is `2 ^ k`
    have hne : (BitVec.twoPow w k).toNat ≠ (0#w).toNat := by
      rw [BitVec.toNat_twoPow_of_lt hk]
      exact Nat.ne_of_gt (Nat.pow_pos (by decide))
    simpa [bne_iff_ne] using fun h => hne (congrArg BitVec.toNat h)

theorem test_or {w : Nat} (f m : BitVec w) (c : Nat) : test (f ||| m) c = (test f c || test m c) := by
  unfold test
  rw [BitVec.and_or_distrib_right]
  generalize f &&& BitVec.ofNat w c = a, m &&& BitVec.ofNat w c = b
  rw [Bool.eq_iff_iff, Bool.or_eq_true, bne_iff_ne, bne_iff_ne, bne_iff_ne, Ne, BitVec.or_eq_zero_iff]
  exact Decidable.not_and_iff_not_or_not

/-- the octets `bs` read as a little-endian word of width `w` (octets beyond the width fall off) -/
def leWord (w : Nat) : Bytes → BitVec w
  | [] => 0
  | b :: bs => b.setWidth w ||| (leWord w bs <<< 8)

theorem leWord_getLsbD (w : Nat) (bs : Bytes) (o j : Nat) (hj : j < 8) :
    (leWord w bs).getLsbD (8 * o + j) = (decide (8 * o + j < w) && (bs.getD o 0#8).getLsbD j) := by
  induction bs generalizing o with
  | nil => simp [leWord]
  | cons b bs ih =>
    rw [leWord, BitVec.getLsbD_or, BitVec.getLsbD_shiftLeft, BitVec.getLsbD_setWidth]
    cases o with
    | zero => simp [hj]  -- a bit below 8 is `b`'s: the rest is shifted past it
    | succ o =>
      -- octet o+1 of `b :: bs` is octet o of `bs`: the bit sits at k + 8, where k is its place in `leWord w bs`
      have ih := ih o
      rw [Nat.mul_succ, Nat.add_right_comm]
      generalize 8 * o + j = k at ih ⊢
      -- `b` itself has no such bit, and the shift brings up bit k of the rest
      rw [BitVec.getLsbD_of_ge b _ (Nat.le_add_left 8 k), Nat.add_sub_cancel, ih,
        decide_eq_false (Nat.not_lt.mpr (Nat.le_add_left 8 k))]
      by_cases hw : k + 8 < w
      · rw [decide_eq_true hw, decide_eq_true (Nat.lt_of_le_of_lt (Nat.le_add_right k 8) hw)]
        rfl
      · rw [decide_eq_false hw]
        rfl

theorem leWord_octet (w : Nat) (bs : Bytes) (o : Nat) (h : 8 * o + 8 ≤ w) :
    (leWord w bs >>> (8 * o)).setWidth 8 = bs.getD o 0#8 := by
  apply BitVec.eq_of_getLsbD_eq
  intro j hj
  rw [BitVec.getLsbD_setWidth, BitVec.getLsbD_ushiftRight, leWord_getLsbD _ _ _ _ hj]
  simp [hj, show 8 * o + j < w by omega]

def leNat : Bytes → Nat
  | [] => 0
  | b :: bs => b.toNat + 256 * leNat bs

theorem leWord_toNat (w : Nat) (bs : Bytes) : (leWord w bs).toNat = leNat bs % 2 ^ w := by
  induction bs with
  | nil => simp [leWord, leNat]
  | cons b bs ih =>
    -- `b` is below 2^8, so or-ing the rest in eight places up adds it
    rw [leWord, BitVec.toNat_or, BitVec.toNat_shiftLeft, BitVec.toNat_setWidth, ih, ← Nat.or_mod_two_pow, Nat.or_comm,
      ← Nat.shiftLeft_add_eq_or_of_lt b.isLt, Nat.shiftLeft_eq, leNat, Nat.add_comm, Nat.add_mod, Nat.mod_mul_mod,
      ← Nat.add_mod, Nat.mul_comm]

theorem leNat_mod (bs : Bytes) (k : Nat) : leNat bs % 256 ^ k = leNat (bs.take k) := by
  induction bs generalizing k with
  | nil => simp [leNat]
  | cons b bs ih =>
    cases k with
    | zero => simp [leNat, Nat.mod_one]
    | succ k =>
      -- `Nat.mod_mul`: x % (256 * 256^k) = x % 256 + 256 * (x / 256 % 256^k), and x is `b` below, `leNat bs` above
      rw [List.take_succ_cons, leNat, leNat, ← ih, Nat.pow_succ', Nat.mod_mul, Nat.add_mul_mod_self_left,
        Nat.add_mul_div_left _ _ (by decide), Nat.mod_eq_of_lt b.isLt, Nat.div_eq_of_lt b.isLt, Nat.zero_add]

theorem leWord_toNat_take (k : Nat) (bs : Bytes) : (leWord (8 * k) bs).toNat = leNat (bs.take k) := by
  rw [leWord_toNat, Nat.pow_mul, ← leNat_mod]

theorem applyUnmarshal_eq (b : Bytes) (hb : b ≠ []) : applyUnmarshal b = some (leWord 16 b) := by
  match b, hb with
  | [b0], _ => simp [applyUnmarshal, leWord]
  | b0 :: b1 :: rest, _ =>
    -- the octets from the third on are shifted out of the 16-bit word
    simp [applyUnmarshal, leWord, BitVec.shiftLeft_or_distrib, ← BitVec.shiftLeft_add]

theorem rptUnmarshal_eq (b : Bytes) (hb : 2 ≤ b.length) : rptUnmarshal b = some (leWord 32 b) := by
  match b, hb with
  | [b0, b1], _ => simp [rptUnmarshal, leWord]
  | [b0, b1, b2], _ =>
    simp [rptUnmarshal, leWord, BitVec.shiftLeft_or_distrib, ← BitVec.shiftLeft_add, BitVec.or_assoc]
  | b0 :: b1 :: b2 :: b3 :: rest, _ =>
    -- the octets from the fifth on are shifted out of the 32-bit word
    simp [rptUnmarshal, leWord, BitVec.shiftLeft_or_distrib, ← BitVec.shiftLeft_add, BitVec.or_assoc]

/-- the `n` low octets of `x`, most significant first (`be16`, `be32`, `be64` of the models are this at 2, 4, 8, by `rfl`) -/
def beBytes {w : Nat} (x : BitVec w) : Nat → Bytes
  | 0 => []
  | n + 1 => (x >>> (8 * n)).setWidth 8 :: beBytes x n

theorem foldl_beBytes {w : Nat} (x : BitVec w) (n a : Nat) :
    (beBytes x n).foldl (fun acc b => acc * 256 + b.toNat) a = a * 256 ^ n + x.toNat % 256 ^ n := by
  induction n generalizing a with
  | zero => simp [beBytes, Nat.mod_one]
  | succ n ih =>
    have h : ((x >>> (8 * n)).setWidth 8).toNat = x.toNat / 256 ^ n % 256 := by
      simp [Nat.shiftRight_eq_div_pow, Nat.pow_mul]
    -- `Nat.mod_mul`: x % (256^n * 256) = x % 256^n + 256^n * (x / 256^n % 256)
    rw [beBytes, List.foldl_cons, ih, h, Nat.pow_succ, Nat.mod_mul, Nat.add_mul]
    ac_rfl

theorem beBytes_toNat {w : Nat} (x : BitVec w) (n : Nat) (h : w ≤ 8 * n) :
    (beBytes x n).foldl (fun acc b => acc * 256 + b.toNat) 0 = x.toNat := by
  rw [foldl_beBytes, Nat.zero_mul, Nat.zero_add, Nat.mod_eq_of_lt]
  rw [show 256 = 2 ^ 8 from rfl, ← Nat.pow_mul]
  exact Nat.lt_of_lt_of_le x.isLt (Nat.pow_le_pow_right (by decide) h)

end UpfVerif.Bits
