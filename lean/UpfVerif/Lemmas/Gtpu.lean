import UpfVerif.Spec.GtpuRef
import UpfVerif.Lemmas.Bits
/-
What C14 needs below the level of the message: the reference decoder's `u16`, `u32` read back the octets of `be16`,
`be32` (`Bits.beBytes_toNat` at two and four octets); the container's two fields survive their shift / mask.
-/
namespace UpfVerif.GtpuLemmas
open UpfVerif.GtpuRef

theorem u32_be32 (t : BitVec 32) :
    u32 ((t >>> 24).setWidth 8) ((t >>> 16).setWidth 8) ((t >>> 8).setWidth 8) (t.setWidth 8) = t.toNat := by
  rw [← Bits.beBytes_toNat t 4 (by decide)]
  simp only [u32, Bits.beBytes, List.foldl, Nat.zero_mul, Nat.zero_add, Nat.mul_zero, BitVec.ushiftRight_zero]

theorem u16_be16 (x : BitVec 16) : u16 ((x >>> 8).setWidth 8) (x.setWidth 8) = x.toNat := by
  rw [← Bits.beBytes_toNat x 2 (by decide)]
  simp only [u16, Bits.beBytes, List.foldl, Nat.zero_mul, Nat.zero_add, Nat.mul_zero, BitVec.ushiftRight_zero]

theorem pt_roundtrip : ∀ pt : Byte, pt < 16#8 → ((pt <<< 4) >>> 4).toNat = pt.toNat := by
  intro pt h
  bv_omega

theorem qfi_roundtrip : ∀ q : Byte, q < 64#8 → ((q &&& 0x3f#8) &&& 0x3f#8).toNat = q.toNat := by
  intro q h
  -- masking twice is masking once, and the mask keeps a number below 2^6
  rw [BitVec.and_assoc, BitVec.and_self, BitVec.toNat_and]
  exact Nat.and_two_pow_sub_one_of_lt_two_pow (n := 6) h

end UpfVerif.GtpuLemmas
