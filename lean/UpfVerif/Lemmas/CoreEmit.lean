import UpfVerif.Model.Core
import UpfVerif.Lemmas.Core
/-
The emission loop shared by the three carriers of usage reports (`emitOne` / `emitUsars`).  One iteration returns the IE made
from the report and the entry of the report's URR (`usarOf`; none for an unknown URR: `emitOne_ie`), and touches that one entry
only (`emitOne_frame`): the counter moves on, or — response carrier, entry marked removed — the entry goes (`URRInfo.emitted`,
`emitOne_get`).
So per URR the loop is `emitFor` on that URR's entry and the reports for that URR, in order, whatever else is in the batch
(`emitUsars_for`): numbering (C11) and once-per-URR (C12) are facts about `emitFor`.  Read IE by IE, each IE of a batch is `usarOf` of one
report of the batch and some URR entry, the reports in the batch's order and none used twice (`emitUsars_ies`): content (C10).
-/
namespace UpfVerif.Core

def usarOf (r : Report) (extra : BitVec 32) (info : URRInfo) : UsarIE :=
  let trig := r.trig ||| extra
  let noTimes := (trig &&& BitVec.ofNat 32 Gen.report.USAR_TRIG_START != 0) || (trig &&& BitVec.ofNat 32 Gen.report.USAR_TRIG_STOPT != 0) ||
    (trig &&& BitVec.ofNat 32 Gen.report.USAR_TRIG_MACAR != 0)
  { urr := r.urr, seqn := info.seqn, trig := trig,
    times := if noTimes then none else some (r.meas.getD 6 0, r.meas.getD 7 0),
    vol := if info.volum then some (if info.mnop then 0x3f#8 else 0x07#8, r.meas.take 6) else none,
    dur := if info.durat then some (r.meas.getD 8 0) else none }

def URRInfo.emitted (b : Bool) (info : URRInfo) : Option URRInfo :=
  if b && info.removed then none else some { info with seqn := info.seqn + 1 }

theorem emitOne_ie (s : Sess) (r : Report) (x : BitVec 32) (b : Bool) :
    (emitOne s r x b).2 = (alGet s.urrs r.urr).map (usarOf r x) := by
  unfold emitOne
  cases alGet s.urrs r.urr <;> rfl

theorem emitOne_get (s : Sess) (r : Report) (x : BitVec 32) (b : Bool) (u : Nat) :
    alGet (emitOne s r x b).1.urrs u = if u = r.urr then (alGet s.urrs u).bind (·.emitted b) else alGet s.urrs u := by
  unfold emitOne
  split
  · rename_i hg
    split
    · rename_i hu; rw [hu, hg]; rfl
    · rfl
  · rename_i info hg
    simp only [URRInfo.emitted]
    by_cases hu : u = r.urr
    · rw [if_pos hu, hu, hg]
      split <;> rename_i h
      · rw [Option.bind_some, if_pos h, alGet_alDel_self]
      · rw [Option.bind_some, if_neg h, alGet_alSet_self]
    · rw [if_neg hu]
      split
      · exact alGet_alDel_other _ _ _ hu
      · exact alGet_alSet_other _ _ _ _ hu

def emitFor (x : BitVec 32) (b : Bool) : Option URRInfo → List Report → Option URRInfo × List UsarIE
  | some i, r :: rs => ((emitFor x b (i.emitted b) rs).1, usarOf r x i :: (emitFor x b (i.emitted b) rs).2)
  | o, _ => (o, [])

theorem usarOf_urr (r : Report) (x : BitVec 32) (i : URRInfo) : (usarOf r x i).urr = r.urr := rfl

theorem emitUsars_for (u : Nat) (x : BitVec 32) (b : Bool) (rs : List Report) : ∀ s : Sess,
    alGet (emitUsars s rs x b).1.urrs u = (emitFor x b (alGet s.urrs u) (rs.filter (·.urr == u))).1 ∧
    (emitUsars s rs x b).2.filter (·.urr == u) = (emitFor x b (alGet s.urrs u) (rs.filter (·.urr == u))).2 := by
  induction rs with
  | nil => intro s; rw [emitUsars]; cases alGet s.urrs u <;> exact ⟨rfl, rfl⟩
  | cons r rs ih =>
    intro s
    rw [emitUsars, List.filter_append, (ih _).1, (ih _).2, emitOne_get, emitOne_ie]
    by_cases hr : r.urr = u
    · subst hr
      cases alGet s.urrs r.urr with
      | none => simp [emitFor]
      | some i => simp [emitFor, usarOf_urr]
    · have hu : ¬ u = r.urr := fun e => hr e.symm
      cases alGet s.urrs r.urr <;> simp [hr, hu, usarOf_urr]

theorem emitFor_none (x : BitVec 32) (b : Bool) (l : List Report) : emitFor x b none l = (none, []) := by
  cases l <;> rfl

theorem emitUsars_ies (rs : List Report) (x : BitVec 32) (b : Bool) : ∀ s : Sess,
    ∃ l : List (Report × URRInfo), (l.map (·.1)).Sublist rs ∧ (emitUsars s rs x b).2 = l.map fun p => usarOf p.1 x p.2 := by
  induction rs with
  | nil => intro s; exact ⟨[], .slnil, rfl⟩
  | cons r rs ih =>
    intro s
    obtain ⟨l, hs, he⟩ := ih (emitOne s r x b).1
    rw [emitUsars, he, emitOne_ie]
    cases alGet s.urrs r.urr with
    | none => exact ⟨l, .cons _ hs, rfl⟩
    | some i => exact ⟨(r, i) :: l, .cons_cons _ hs, rfl⟩

theorem emitOne_frame (s : Sess) (r : Report) (x : BitVec 32) (b : Bool) :
    (emitOne s r x b).1 = { s with urrs := (emitOne s r x b).1.urrs } := by
  unfold emitOne
  split <;> rfl

theorem emitUsars_frame (s : Sess) (rs : List Report) (x : BitVec 32) (b : Bool) :
    (emitUsars s rs x b).1 = { s with urrs := (emitUsars s rs x b).1.urrs } := by
  induction rs generalizing s with
  | nil => rfl
  | cons r rs ih =>
    unfold emitUsars
    rw [ih, emitOne_frame s r x b]

end UpfVerif.Core
