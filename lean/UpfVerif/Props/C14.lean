/-
C14 — re-injected packets are well-formed GTPv1-U G-PDUs carrying the full QFI.

Statement (all TEIDs, all payloads whose length fits the 16-bit length field, every QFI
0..63 and PDU type 0..15, with and without the PDU Session Container):
the bytes produced by the model of `Message.Encode` for the header form the UPF emits
(flags 0x34, type 255) are accepted by the independent TS 29.281 / TS 38.415 reference
decoder and decode to version 1, PT = 1, type 255, length = bytes after the mandatory 8,
the given TEID, the payload unchanged, and — when a QoS flow applies — exactly one
extension header of type 0x85, one 4-octet unit, with the given PDU type and the full
6-bit QFI, terminated by next-extension type 0.

Both are cases of `decode_encode`: for these flags and ANY list of containers the reference
decoder returns the header fields, one extension header per container, and the payload.
-/
import UpfVerif.Model.Gtpu
import UpfVerif.Spec.GtpuRef
import UpfVerif.Lemmas.Gtpu

namespace UpfVerif.C14
open UpfVerif.Gtpu UpfVerif.GtpuRef UpfVerif.GtpuLemmas

/-- header form of `WritePacket` with an arbitrary container (PDU type is 0 in the code). -/
def mkMsg (teid : BitVec 32) (ext : Option PSC) (pl : Bytes) : Msg :=
  { flags := 0x34#8, type := 255#8, teid := teid, seq := 0, npdu := 0,
    exts := ext.toList, payload := pl }

theorem writePacketMsg_eq (teid : BitVec 32) (q : Option Byte) (pl : Bytes) :
    writePacketMsg teid q pl = mkMsg teid (q.map fun q => { pduType := 0#8, qfi := q }) pl := by
  cases q <;> rfl

/-- with the flags of `WritePacket`, `Len()` is the mandatory 8 octets, 3 for sequence and N-PDU number (not used, but
    present because E is set), four per container, the next-type octet that ends the chain, and the payload -/
theorem msgLen_eq (m : Msg) (h : m.flags = 0x34#8) : msgLen m = 12 + 4 * m.exts.length + m.payload.length := by
  have : alignPos (optLen 0x34#8) = 11 := by decide
  rw [msgLen, h, this]
  omega

/-- …and these are the octets: after the three zero octets the chain of extension headers, each container announced
    by the 0x85 in front of it, the last followed by next-type 0 -/
theorem encode_eq (m : Msg) (h : m.flags = 0x34#8) :
    encode m = [0x34#8, m.type] ++ be16 (BitVec.ofNat 16 (msgLen m - 8)) ++ be32 m.teid ++ [0#8, 0#8, 0#8]
      ++ ((m.exts.map encPSC).flatten ++ [0#8] ++ m.payload) := by
  rw [encode, h]
  -- both sides nested to the right first: then `rfl` has only the flag tests and the padding to evaluate
  simp only [List.append_assoc]
  rfl

/-- the encoded length is what `Len()` says (the buffer `WritePacket` allocates is filled exactly). -/
theorem encode_length (m : Msg) (h : m.flags = 0x34#8) : (encode m).length = msgLen m := by
  rw [encode_eq m h, msgLen_eq m h]
  simp [be16, be32, List.length_flatten, Function.comp_def, encPSC, List.map_const', List.sum_replicate_nat]
  omega

/-- the extension header the reference decoder is to find for a container: type 0x85, one unit of four octets -/
def toExt (e : PSC) : Ext := ⟨0x85#8, [e.pduType <<< 4, e.qfi &&& 0x3f#8]⟩

/-- the reference decoder's walk reads the encoder's chain back, container by container, given more fuel than octets -/
theorem exts_chain (pl : Bytes) (es : List PSC) :
    ∃ nx rest, (es.map encPSC).flatten ++ [0#8] ++ pl = nx :: rest ∧
      ∀ fuel, rest.length < fuel → GtpuRef.exts fuel nx rest = some (es.map toExt, pl) := by
  induction es with
  | nil => exact ⟨0#8, pl, rfl, fun | fuel + 1, _ => rfl⟩
  | cons e es ih =>
    obtain ⟨nx, rest, h, ih⟩ := ih
    refine ⟨0x85#8, 1#8 :: e.pduType <<< 4 :: (e.qfi &&& 0x3f#8) :: nx :: rest, h ▸ rfl, fun | fuel + 1, hf => ?_⟩
    have := ih fuel (by simp at hf; omega)
    simp [GtpuRef.exts, this, toExt]

/-- **the reference decoder reads `Message.Encode` back**, for the flags `WritePacket` uses (version 1, PT, E; no S, no PN)
    and ANY list of PDU Session Containers; the length field is `Len() - 8` as far as it fits 16 bits -/
theorem decode_encode (m : Msg) (h : m.flags = 0x34#8) :
    decode (encode m) = some
      { version := 1, pt := true, e := true, s := false, pn := false, msgType := m.type,
        length := (BitVec.ofNat 16 (msgLen m - 8)).toNat, teid := m.teid.toNat,
        exts := m.exts.map toExt, payload := m.payload } := by
  obtain ⟨nx, rest, hc, hx⟩ := exts_chain m.payload m.exts
  rw [encode_eq m h, hc]
  generalize BitVec.ofNat 16 (msgLen m - 8) = l
  simp [decode, be16, be32, hx, u16_be16, u32_be32]

/-- Without a QoS flow: no extension header, next-extension type 0, payload intact. -/
theorem gpdu_plain (teid : BitVec 32) (pl : Bytes) (hl : pl.length + 4 ≤ 65535) :
    wellFormedGPDU (encode (mkMsg teid none pl)) teid.toNat none pl = true := by
  rw [wellFormedGPDU, decode_encode _ rfl, encode_length _ rfl, msgLen_eq _ rfl]
  -- what remains is the length field: `Len() - 8` fits 16 bits
  simp [mkMsg]
  omega

/-- With a QoS flow: exactly one PDU Session Container with the given PDU type and the
    full six-bit QFI. -/
theorem gpdu_qfi (teid : BitVec 32) (pt q : Byte) (pl : Bytes)
    (hpt : pt < 16#8) (hq : q < 64#8) (hl : pl.length + 8 ≤ 65535) :
    wellFormedGPDU (encode (mkMsg teid (some { pduType := pt, qfi := q }) pl))
      teid.toNat (some (pt.toNat, q.toNat)) pl = true := by
  rw [wellFormedGPDU, decode_encode _ rfl, encode_length _ rfl, msgLen_eq _ rfl]
  -- the length field again, and the two fields of the container through their shift / mask
  simp [mkMsg, toExt, pduSessInfo, pt_roundtrip pt hpt, qfi_roundtrip q hq]
  omega

/-- the message `WritePacket` builds is of that form (PDU type 0). -/
theorem writePacket_wellFormed (teid : BitVec 32) (q : Byte) (pl : Bytes)
    (hq : q < 64#8) (hl : pl.length + 8 ≤ 65535) :
    wellFormedGPDU (encode (writePacketMsg teid (some q) pl)) teid.toNat (some (0, q.toNat)) pl = true := by
  rw [writePacketMsg_eq]
  exact gpdu_qfi teid 0#8 q pl (by decide) hq hl

/-- the container is four octets (length field 1) and its last octet carries the six-bit QFI and nothing else: the PPP and
    RQI bits are clear whatever the QER says besides its QFI (paging policy indicator, reflective QoS) — so there is no
    PPI octet and the length never changes -/
theorem container_qfi_only (e : PSC) :
    (encPSC e).length = 4 ∧ (encPSC e)[1]? = some 1#8 ∧ ∃ b, (encPSC e)[3]? = some b ∧ b &&& 0xC0#8 = 0#8 := by
  refine ⟨rfl, rfl, e.qfi &&& 0x3f#8, rfl, ?_⟩
  -- the mask 0x3f and the two high bits 0xC0 share no bit
  rw [BitVec.and_assoc]
  exact BitVec.and_zero

/-- the datagram `WritePacket` builds is the payload plus exactly 12 octets (no QoS flow) or 16 octets (container) — for
    EVERY payload length, whatever its remainder modulo four: nothing is rounded, nothing of the payload is cut off -/
theorem writePacket_length (teid : BitVec 32) (q : Option Byte) (pl : Bytes) :
    (encode (writePacketMsg teid q pl)).length = pl.length + (if q.isSome then 16 else 12) := by
  rw [writePacketMsg_eq, encode_length _ rfl, msgLen_eq _ rfl]
  cases q <;> simp [mkMsg] <;> omega

/-- non-vacuity: concrete packet, QFI 33 (needs bit 5), 2-byte payload. -/
example : wellFormedGPDU (encode (writePacketMsg 0x01020304#32 (some 33#8) [0xde#8, 0xad#8]))
    0x01020304 (some (0, 33)) [0xde#8, 0xad#8] = true := by decide

/-- what a 4-bit mask would do (the defect repaired by the `fix:` commit): QFI 16 decodes as 0. -/
example : ((16#8 &&& 0xf#8) &&& 0x3f#8).toNat ≠ (16#8).toNat := by decide

end UpfVerif.C14
