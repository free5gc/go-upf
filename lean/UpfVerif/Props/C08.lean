/-
C08 — responses are correlated with their request and consistent with its effect.

Over `Core.step` for every reachable state, every request, every environment (driver answers, iteration order):
 * every datagram caused by a request goes to the address it came from and echoes its sequence number
   (first copies and retransmissions alike);
 * Modification/Deletion Responses carry the addressed session's control-plane SEID, or SEID 0 together with
   cause 'session context not found' when the header SEID resolves to no live session — and then nothing but the
   receive-transaction bookkeeping changes and no driver call is made;
 * a request that gets no answer for lack of Node ID / F-SEID / association changes nothing but that bookkeeping;
 * the Establishment Response returns a UP F-SEID that from then on resolves to the new session.
(The recovery time stamp is a field written once in `NewPfcpServer`; that no other write exists is a regenerated
 fact, `Gen.Conc`, used in C17.)
-/
import UpfVerif.Model.Core
import UpfVerif.Lemmas.CoreHandlers
import UpfVerif.Lemmas.CoreStep
import UpfVerif.Props.C04

namespace UpfVerif.C08
open UpfVerif.Core

/-- cached responses sit under the key of the request they answer -/
def RxInv (st : State) : Prop :=
  ∀ a q rx m, alGet st.rx (a, q) = some rx → rx.rsp = some m → m.seq = q

/-- every datagram a request causes goes back to the requester with the request's sequence number -/
theorem rsp_addr_seq (st : State) (inv : RxInv st) (addr : String) (seq : BitVec 24) (r : Req) (env : Env) :
    ∀ to m, Out.send to m ∈ (step st (.request addr seq r) env).2 → to = addr ∧ m.seq = seq := by
  intro to m h
  unfold step at h
  simp only at h
  split at h
  · -- a retransmission: the cached response, which sits under the request's key (`RxInv`)
    rename_i rx hrx
    split at h
    · rename_i m' hm'
      simp [Ctx.emit] at h
      obtain ⟨h1, h2⟩ := h
      exact ⟨h1, by rw [h2]; exact inv addr seq rx _ hrx hm'⟩
    · simp at h
  · -- driver calls, then at most the response (`handleReq_answers`)
    obtain ⟨st1, c1, ⟨_, hd⟩, e⟩ := handleReq_answers { st with rx := alSet st.rx (addr, seq) {} } addr seq r env { pending := env.pending }
    have hc1 : Out.send to m ∉ c1.outs := fun hm => by
      rcases hd.mem hm with h | ⟨_, _, h⟩ <;> cases h
    rcases e with e | ⟨m', hm', e⟩
    · rw [e] at h; exact absurd h hc1
    · rw [e] at h
      rcases mem_sendRsp_outs _ _ _ _ _ h with h | h
      · exact absurd h hc1
      · cases h; exact ⟨rfl, hm'⟩

theorem rxInv_set {st st' : State} (inv : RxInv st) (k : String × BitVec 24) (rx : Rx) (h : ∀ m, rx.rsp = some m → m.seq = k.2)
    (e : st'.rx = alSet st.rx k rx) : RxInv st' := by
  intro a q rx' m hg hr
  rw [e, alGet_alSet] at hg
  split at hg
  · rename_i hk
    cases hg
    exact (h m hr).trans (congrArg Prod.snd hk).symm
  · exact inv a q rx' m hg hr

theorem rxInv_del {st st' : State} (inv : RxInv st) (k : String × BitVec 24) (e : st'.rx = alDel st.rx k) : RxInv st' := by
  intro a q rx m hg hr
  rw [e, alGet_alDel] at hg
  split at hg
  · cases hg
  · exact inv a q rx m hg hr

theorem rxInv_same {st st' : State} (inv : RxInv st) (e : st'.rx = st.rx) : RxInv st' :=
  fun a q rx m hg hr => inv a q rx m (e ▸ hg) hr

theorem rxInv_step (st : State) (inv : RxInv st) (e : Event) (env : Env) : RxInv (step st e env).1 := by
  have h := step_footprint st e env
  cases e with
  | rxTimeout addr seq => exact rxInv_del inv (addr, seq) rfl
  | request addr seq r =>
    unfold step
    simp only
    split
    · split <;> exact inv
    · -- the fresh transaction holds no response; the handler at most caches its own under the request's key
      have inv1 : RxInv { st with rx := alSet st.rx (addr, seq) {} } := rxInv_set inv (addr, seq) {} (fun _ h => nomatch h) rfl
      rcases handleReq_rx { st with rx := alSet st.rx (addr, seq) {} } addr seq r env { pending := env.pending } with e | ⟨m', hm', e⟩
      · exact rxInv_same inv1 e
      · exact rxInv_set inv1 (addr, seq) _ (fun m h => by cases h; exact hm') e
  | report x items => exact rxInv_same inv h
  | _ => exact rxInv_same inv h.1 -- responses, transmit expiries, `ignored`: the receive table is as it was (`step_footprint`)

/-- every reachable state (any history, any environment) satisfies the invariant -/
theorem rxInv_run (h : List (Event × Env)) :
    RxInv (h.foldl (fun st (p : Event × Env) => (step st p.1 p.2).1) {}) :=
  foldl_keep _ RxInv (fun st p inv => rxInv_step st inv p.1 p.2) h {} (fun _ _ _ _ h => nomatch h)

/-! ### session-level responses: SEID and cause -/

/-- the Modification Response carries the peer's SEID for the session, or 0 with cause 65 on a miss -/
theorem mod_rsp_seid (st : State) (addr : String) (seq : BitVec 24) (r : ModReq) (env : Env) (m : Msg)
    (h : Out.send addr m ∈ (handleMod st addr seq r env { pending := env.pending }).2.outs) :
    m.kind = .modRsp ∧ m.seq = seq ∧
    (match st.lnode.lookup r.seid with
     | none => m.seid = some 0 ∧ m.cause = some causeNoContext
     | some s0 => m.seid = some s0.remoteID ∧ m.cause = some causeAccepted) :=
  handleMod_rsp st addr seq r env _ m h (by intro to m' hm; simp at hm)

/-- a miss leaves no trace: no driver call, and session table, nodes, node map and transmit transactions are
    unchanged (only the receive transaction of the request itself records the answer) -/
theorem mod_miss_no_trace (st : State) (addr : String) (seq : BitVec 24) (r : ModReq) (env : Env) (c : Ctx)
    (h : st.lnode.lookup r.seid = none) :
    let res := handleMod st addr seq r env c
    res.1.lnode = st.lnode ∧ res.1.nodes = st.nodes ∧ res.1.rnodes = st.rnodes ∧ res.1.tx = st.tx ∧
    (∀ o ∈ res.2.outs, o ∈ c.outs ∨ ∃ m, o = Out.send addr m) := by
  simp only [handleMod, h]
  exact ⟨sendRsp_lnode .., sendRsp_nodes .., sendRsp_rnodes .., sendRsp_tx ..,
    fun o ho => (mem_sendRsp_outs _ _ _ _ o ho).imp_right fun e => ⟨_, e⟩⟩

theorem del_miss_no_trace (st : State) (addr : String) (seq : BitVec 24) (x : Seid) (env : Env) (c : Ctx)
    (h : st.lnode.lookup x = none) :
    let res := handleDel st addr seq x env c
    res.1.lnode = st.lnode ∧ res.1.nodes = st.nodes ∧ res.1.rnodes = st.rnodes ∧ res.1.tx = st.tx ∧
    (∀ o ∈ res.2.outs, o ∈ c.outs ∨ ∃ m, o = Out.send addr m ∧ m.seid = some 0 ∧ m.cause = some causeNoContext) := by
  simp only [handleDel, h]
  exact ⟨sendRsp_lnode .., sendRsp_nodes .., sendRsp_rnodes .., sendRsp_tx ..,
    fun o ho => (mem_sendRsp_outs _ _ _ _ o ho).imp_right fun e => ⟨_, e, rfl, rfl⟩⟩

/-- an Establishment Request that is not answered — no Node ID, unknown node, no CP F-SEID — changes nothing -/
theorem est_unanswered_no_trace (st : State) (addr : String) (seq : BitVec 24) (r : EstReq) (env : Env) (c : Ctx)
    (h : r.nodeID = none ∨ (∃ n, r.nodeID = some n ∧ st.nodeOf n = none) ∨ r.cpSeid = none) :
    handleEst st addr seq r env c = (st, c) := by
  unfold handleEst
  rcases h with h | ⟨n, hn, hno⟩ | h
  · simp [h]
  · simp [hn, hno]
  · cases hn : r.nodeID with
    | none => simp
    | some n =>
      cases hno : st.nodeOf n with
      | none => simp [hno]
      | some hd => simp [h, hno]

/-- an Association Setup Request without Node ID changes nothing -/
theorem assoc_unanswered_no_trace (st : State) (addr : String) (seq : BitVec 24) (env : Env) (c : Ctx) :
    handleAssoc st addr seq none env c = (st, c) := by simp [handleAssoc]

/-- **a first copy of a Heartbeat Request is always answered**, to the sender, with its sequence number -/
theorem hb_answered (st : State) (addr : String) (seq : BitVec 24) (env : Env) (h : alGet st.rx (addr, seq) = none) :
    (step st (.request addr seq .heartbeat) env).2 = [Out.send addr { kind := .hbRsp, seq := seq, recov := true }] := by
  unfold step
  simp only [h, handleReq, State.sendRsp]
  simp [Ctx.emit]

/-- **a first copy of an Association Setup Request that names its node is always answered** — whatever the node's
    history (first association, re-association of a node with sessions, any driver answers while they are withdrawn):
    the last output is the accepting response to the sender, with its sequence number, node id and recovery time stamp -/
theorem assoc_answered (st : State) (addr : String) (seq : BitVec 24) (nid : NodeId) (env : Env)
    (h : alGet st.rx (addr, seq) = none) :
    (step st (.request addr seq (.assoc (some nid))) env).2.getLast? =
      some (Out.send addr { kind := .assocRsp, seq := seq, cause := some causeAccepted, nodeID := true, recov := true }) := by
  unfold step
  simp only [h, handleReq, handleAssoc]
  -- the state just before the response still holds the receive transaction created for this request
  have hrx0 : alGet (alSet st.rx (addr, seq) ({} : Rx)) (addr, seq) = some {} := alGet_alSet_self _ _ _
  cases hn : ({ st with rx := alSet st.rx (addr, seq) {} } : State).nodeOf nid with
  | none => exact sendRsp_last _ _ _ _ {} hrx0
  | some hd =>
    apply sendRsp_last _ _ _ _ {}
    rw [(resetNode_work _ hd env _).1.1]; exact hrx0

/-- an accepted establishment returns a UP F-SEID that from then on addresses the new session, which carries
    the control-plane SEID the peer chose (uses the table invariant of C04) -/
theorem est_fseid_resolves (st : State) (wf : C04.TableWF st.lnode) (hroom : st.lnode.sess.length + 1 < 2 ^ 64)
    (addr : String) (seq : BitVec 24) (r : EstReq) (env : Env) (c : Ctx) (n : NodeId) (h : Nat) (cp : Seid)
    (hn : r.nodeID = some n) (hno : st.nodeOf n = some h) (hcp : r.cpSeid = some cp) :
    let up := (st.lnode.newSess h cp).2.localID
    up ≠ 0 ∧ st.lnode.lookup up = none ∧
    ∃ s, (handleEst st addr seq r env c).1.lnode.lookup up = some s ∧ s.localID = up ∧ s.remoteID = cp := by
  have spec := C04.newSess_spec st.lnode wf h cp hroom
  obtain ⟨wf', hne, hfresh, hhit, hrem, _⟩ := spec
  refine ⟨hne, hfresh, ?_⟩
  unfold handleEst
  simp only [hn, hno, hcp]
  obtain ⟨hid, hrid, _⟩ := (runStages_eff (estStages r) (estStages_eff r) (st.lnode.newSess h cp).2 c []).ids
  refine ⟨_, ?_, hid, by rw [hrid, hrem]⟩
  -- `sendRsp` leaves the table alone, and the handler has written the new session into its own slot
  rw [sendRsp_lnode]
  exact (C04.lookup_setSess _ _ _ _ hhit hid _).trans (if_pos rfl)

/-! ### non-vacuity: a concrete exchange -/
example :
    let st0 : State := {}
    let (st1, o1) := step st0 (.request "p1" 1 (.assoc (some (.v4 "p1")))) {}
    let (st2, o2) := step st1 (.request "p1" 2 (.est { nodeID := some (.v4 "p1"), cpSeid := some 0x77#64 })) {}
    let (_, o3) := step st2 (.request "p2" 2 (.mod { seid := 5 })) {}
    o1.length = 1 ∧
    o2 = [Out.send "p1" { kind := .estRsp, seq := 2, seid := some 0x77#64, cause := some 1, nodeID := true, fseid := some 1#64 }] ∧
    o3 = [Out.send "p2" { kind := .modRsp, seq := 2, seid := some 0#64, cause := some 65 }] := by decide

/-! ### the Session Establishment Response names the PDRs it created -/

/-- the list of Created PDR IEs: one per PDR of the request that carries a UE IP address — its id and that address — in request
    order.  It is a function of the request's content alone: the order of the children INSIDE a Create PDR IE (PDR ID before
    or after the PDI) does not enter (the model works on the decoded IE; that the real handler reads the id wherever it sits
    is what the `/L` Create PDRs of the ctl stream observe) -/
def expectedCreated (r : EstReq) : List (Nat × Bytes) := r.pdr.filterMap fun ie => ie.ueip.map fun ip => (ie.id.getD 0, ip)

/-- an accepted establishment (known node, F-SEID present, the request's receive transaction in place) is answered with
    exactly that list, the new session's SEID and cause "accepted" -/
theorem est_created_exact (st : State) (addr : String) (seq : BitVec 24) (r : EstReq) (env : Env) (c : Ctx)
    (nid : NodeId) (h : Nat) (cp : Seid) (rx : Rx)
    (hn : r.nodeID = some nid) (hh : st.nodeOf nid = some h) (hc : r.cpSeid = some cp)
    (hrx : alGet st.rx (addr, seq) = some rx) :
    ∃ m, (handleEst st addr seq r env c).2.outs.getLast? = some (Out.send addr m) ∧
      m.kind = .estRsp ∧ m.seq = seq ∧ m.cause = some causeAccepted ∧ m.created = expectedCreated r ∧
      m.fseid = some (st.lnode.newSess h cp).2.localID := by
  unfold handleEst
  simp only [hn, hh, hc]
  exact ⟨_, sendRsp_last _ _ _ _ rx hrx, rfl, rfl, rfl, rfl,
    congrArg some (runStages_eff (estStages r) (estStages_eff r) (st.lnode.newSess h cp).2 c []).ids.1⟩

end UpfVerif.C08
