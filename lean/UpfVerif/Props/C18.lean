import UpfVerif.Spec.ConcRules
/-
C18 — the control loop cannot be wedged by bursts of reports or rule changes.

* `acyclic_progress` — the general principle: if "process p is blocked sending to a bounded queue whose receiver is q" admits a
  ranking (the waits-for relation is acyclic), then among any set of blocked processes the one of least rank is waiting for
  a process that is NOT blocked — someone can always move; no set of processes blocks each other forever.
* `blocking_edges` — the waits-for graph of go-upf, computed by the kernel from the REGENERATED facts (which goroutine root
  sends on which bounded channel, who receives from it).
* `graph_has_cycle` — that graph contains the cycle  event loop --evtCh--> periodic server --srCh--> event loop:
  the loop posts timer events (URR create / remove) from inside a request, the periodic server posts session reports to the
  loop.  THE PROPERTY DOES NOT HOLD OF THE CODE (known finding `perioLoopCycle`, DESIGN.md §8); the theorem is kept so that
  the check notices when the cycle disappears, or when ANOTHER cycle appears (`only_known_cycle`).
* `wedge_stuck`, `wedge_reachable` — for ALL capacities E, R ≥ 0 of the two queues: the two-process system has a reachable
  state in which both are blocked forever (the loop has E+1 timer events to post in one turn, a tick has R+1 sessions to
  report), with the schedule constructed as a function of E and R.
* `no_wedge_partial` — without the loop's posts (a request that issues no timer event) the system always has a move.
-/
namespace UpfVerif.C18
open UpfVerif.Gen.Conc UpfVerif.ConcRules

/-- the waits-for graph is built from channel operations only; it is complete as a model of blocking because the module has
    no other blocking primitive: no mutex, read-write lock or condition variable appears in /repo's current source (the
    `sync.WaitGroup` is waited on at shutdown only) -/
theorem blocking_is_channels_only : otherSync = [] := by decide

/-! ### the principle -/

/-- `waits p = some q`: p is blocked on a queue only q drains.  A ranking makes the relation acyclic. -/
theorem acyclic_progress {P : Type} (waits : P → Option P) (rank : P → Nat)
    (hr : ∀ p q, waits p = some q → rank q < rank p) (p0 : P) :
    ∃ p, waits p = none :=
  -- follow the chain from p0: ranks decrease, so it ends at a process that waits for nobody
  match hw : waits p0 with
  | none => ⟨p0, hw⟩
  | some q => acyclic_progress waits rank hr q
termination_by rank p0
decreasing_by exact hr p0 q hw

/-! ### the waits-for graph of go-upf, from the regenerated facts -/

/-- the two queues and their capacities, as the source has them now -/
theorem capacities : chanCaps.lookup "perio.Server.evtCh" = some 512 ∧ chanCaps.lookup "pfcp.PfcpServer.srCh" = some 128 := by
  decide +kernel

/-- roots that only ever send (producers) or whose sends go to a root that sends to nobody else are harmless; what
    matters is a cycle.  Ranking that orders every edge EXCEPT the known one: -/
def rankOf (r : String) : Nat :=
  if r == "perio.Server.Serve" then 1
  else if r == "pfcp.PfcpServer.main" then 0
  else 2

-- One statement, so that the kernel evaluates `edgeSet` (for every access a pass over the regenerated table, comparing
-- strings) once and not once per fact; the three theorems after it are its parts.
theorem waits_for_graph :
    (hasEdge "pfcp.PfcpServer.main" "perio.Server.evtCh" "perio.Server.Serve" = true ∧
     hasEdge "perio.Server.Serve" "pfcp.PfcpServer.srCh" "pfcp.PfcpServer.main" = true) ∧
    (hasEdge "perio.Server.Serve" "perio.PERIOGroup.stopCh" "perio.PERIOGroup.newTicker$1" = true ∧
     hasEdge "perio.PERIOGroup.newTicker$1" "perio.Server.evtCh" "perio.Server.Serve" = true) ∧
    edgeSet.all (fun e => (e.1 == "pfcp.PfcpServer.main" && e.2.1 == "perio.Server.evtCh" && e.2.2 == "perio.Server.Serve") ||
      (e.1 == "pfcp.PfcpServer.main" && e.2.1 == "perio.Server.done" && e.2.2 == "perio.Server.Serve") ||
      (e.1 == "perio.Server.Serve" && e.2.1 == "perio.PERIOGroup.stopCh" && e.2.2 == "perio.PERIOGroup.newTicker$1") ||
      rankOf e.2.2 < rankOf e.1) = true := by
  decide +kernel

/-- **the cycle**: the event loop blocks on the periodic server's queue, the periodic server blocks on the loop's -/
theorem graph_has_cycle :
    hasEdge "pfcp.PfcpServer.main" "perio.Server.evtCh" "perio.Server.Serve" = true ∧
    hasEdge "perio.Server.Serve" "pfcp.PfcpServer.srCh" "pfcp.PfcpServer.main" = true :=
  waits_for_graph.1

/-- a second cycle, inside the periodic server: it stops a ticker by an unbuffered send while that ticker goroutine may
    itself be blocked posting a TIMEOUT into the (full) event queue only the server drains (known finding `perioTickerCycle`) -/
theorem ticker_cycle :
    hasEdge "perio.Server.Serve" "perio.PERIOGroup.stopCh" "perio.PERIOGroup.newTicker$1" = true ∧
    hasEdge "perio.PERIOGroup.newTicker$1" "perio.Server.evtCh" "perio.Server.Serve" = true :=
  waits_for_graph.2.1

/-- every blocking edge other than  event loop --evtCh--> periodic server  and  periodic server --stopCh--> ticker goroutine
    goes down in rank: the graph minus those two edges is acyclic, i.e. the cycles of `graph_has_cycle` and
    `ticker_cycle` are the ONLY ones.  A new blocking send that closes another cycle breaks this theorem. -/
theorem only_known_cycle :
    edgeSet.all (fun e => (e.1 == "pfcp.PfcpServer.main" && e.2.1 == "perio.Server.evtCh" && e.2.2 == "perio.Server.Serve") ||
      -- the other arm of the same select in `post`: released when the periodic server ends
      (e.1 == "pfcp.PfcpServer.main" && e.2.1 == "perio.Server.done" && e.2.2 == "perio.Server.Serve") ||
      (e.1 == "perio.Server.Serve" && e.2.1 == "perio.PERIOGroup.stopCh" && e.2.2 == "perio.PERIOGroup.newTicker$1") ||
      rankOf e.2.2 < rankOf e.1) = true :=
  waits_for_graph.2.2

/-! ### the two-process system, for all capacities -/

structure W where
  evt : Nat            -- events queued for the periodic server (capacity E)
  sr : Nat             -- reports queued for the loop (capacity R)
  loopPending : Nat    -- timer events the loop still has to post in its current turn (0: at its select)
  perioPending : Nat   -- reports the periodic server still has to post for its current tick (0: at its receive)
deriving DecidableEq, Repr

inductive Step (E R : Nat) : W → W → Prop
  | loopStart (w : W) (k : Nat) : w.loopPending = 0 → Step E R w { w with loopPending := k }
  | loopPost (w : W) : 0 < w.loopPending → w.evt < E → Step E R w { w with evt := w.evt + 1, loopPending := w.loopPending - 1 }
  | loopTake (w : W) : w.loopPending = 0 → 0 < w.sr → Step E R w { w with sr := w.sr - 1 }
  | perioTick (w : W) (m : Nat) : w.perioPending = 0 → Step E R w { w with perioPending := m }
  | perioPost (w : W) : 0 < w.perioPending → w.sr < R → Step E R w { w with sr := w.sr + 1, perioPending := w.perioPending - 1 }
  | perioTake (w : W) : w.perioPending = 0 → 0 < w.evt → Step E R w { w with evt := w.evt - 1 }

inductive Reach (E R : Nat) : W → Prop
  | init : Reach E R ⟨0, 0, 0, 0⟩
  | step {w w'} : Reach E R w → Step E R w w' → Reach E R w'

def wedged (E R : Nat) : W := ⟨E, R, 1, 1⟩

/-- both queues full, both processes in the middle of posting: nothing can move, ever -/
theorem wedge_stuck (E R : Nat) : ∀ w', ¬ Step E R (wedged E R) w' := by
  intro w' h
  cases h <;> simp_all [wedged]

/-- every state on the way to the wedge is reachable: the loop has begun a turn with E+1 timer events, a tick has R+1 sessions
    to report; `a` events and `b` reports have been posted so far, `k + 1` and `m + 1` are still to be posted -/
theorem posted (E R a b k m : Nat) (ha : a + k = E) (hb : b + m = R) : Reach E R ⟨a, b, k + 1, m + 1⟩ := by
  -- the schedule: both begin, then the loop posts `a` times, then the periodic server `b` times
  induction b generalizing m with
  | zero =>
    induction a generalizing k with
    | zero =>
      have h0 : Reach E R ⟨0, 0, k + 1, 0⟩ := Reach.step Reach.init (Step.loopStart _ (k + 1) rfl)
      exact Reach.step h0 (Step.perioTick _ (m + 1) rfl)
    | succ a ih => exact Reach.step (ih (k + 1) (by omega)) (Step.loopPost _ (Nat.succ_pos _) (by show a < E; omega))
  | succ b ih => exact Reach.step (ih (m + 1) (by omega)) (Step.perioPost _ (Nat.succ_pos _) (by show b < R; omega))

/-- **for all capacities the wedge is reachable**: one loop turn that issues E+1 timer events (a re-association or
    deletion removing that many periodic URRs) while one tick reports R+1 sessions -/
theorem wedge_reachable (E R : Nat) : Reach E R (wedged E R) :=
  posted E R E R 0 0 rfl rfl

/-- PARTIAL: while the loop issues no timer event inside a turn, there is always a move or nothing left to do -/
theorem no_wedge_partial (E R : Nat) (w : W) (hl : w.loopPending = 0) :
    (∃ w', Step E R w w') := ⟨_, Step.loopStart w 0 hl⟩

/-- …and more to the point: with the loop at its select, a blocked periodic server is always released -/
theorem loop_idle_releases (E R : Nat) (w : W) (hl : w.loopPending = 0) (hp : 0 < w.perioPending) (hfull : w.sr = R) (hR : 0 < R) :
    ∃ w', Step E R w w' ∧ w'.sr < R := by
  refine ⟨{ w with sr := w.sr - 1 }, Step.loopTake w hl (by omega), ?_⟩
  show w.sr - 1 < R
  omega

end UpfVerif.C18
