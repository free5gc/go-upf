/-
C05 — a message for one session or node never disturbs another.

Over M-Core, for every reachable table (`C04.TableWF`), every request and every environment:
 * all driver calls made for a Modification or Deletion Request are tagged with the SEID the request addresses,
 * the request rewrites only that session's slot of the table: every other SEID resolves exactly as before
   (rules, URR counters, packet queues live inside the `Sess` value, so "resolves to the same value" is the frame),
 * re-association removes sessions of the re-associating node object only,
 * the SEID-0 report response removes only a session whose control-plane SEID and node address match.
Nothing in the proofs uses distinctness of rule ids or control-plane SEIDs across sessions.
-/
import UpfVerif.Model.Core
import UpfVerif.Lemmas.CoreHandlers
import UpfVerif.Props.C04

namespace UpfVerif.C05
open UpfVerif.Core

/-- writing a live session's slot does not change what any other SEID resolves to -/
theorem setSess_frame (n : LNode) (s' : Sess) (y : Seid) (hy : y ≠ s'.localID) (h0 : s'.localID ≠ 0) :
    (n.setSess s').lookup y = n.lookup y := by
  unfold LNode.setSess
  apply C04.lookup_set_other
  by_cases hy0 : y = 0
  · exact Or.inr hy0
  · exact Or.inl (C04.pred_toNat_ne hy0 h0 hy)

/-- Modification Request: driver calls carry the addressed SEID -/
theorem mod_tagged_own_seid (st : State) (wf : C04.TableWF st.lnode) (addr : String) (seq : BitVec 24) (r : ModReq)
    (env : Env) (s0 : Sess) (h : st.lnode.lookup r.seid = some s0) :
    ∀ cc a, Out.dp cc a ∈ (handleMod st addr seq r env { pending := env.pending }).2.outs → cc.seid = r.seid := by
  intro cc a hm
  simp only [handleMod, h] at hm
  -- the outputs: the calls of the rule loops, all tagged with `s0`'s SEID, then at most the response
  rcases mem_sendRsp_outs _ _ _ _ _ hm with hm | hm
  · rcases (runStages_eff _ (modStages_eff r) s0 { pending := env.pending } []).tagged.mem hm with hm | ⟨_, _, he, hs, _⟩
    · cases hm
    · cases he; rw [hs, C04.lookup_some_id st.lnode wf r.seid s0 h]
  · cases hm

/-- Modification Request: every other SEID resolves exactly as before, hit or miss -/
theorem mod_frame (st : State) (wf : C04.TableWF st.lnode) (addr : String) (seq : BitVec 24) (r : ModReq)
    (env : Env) (c : Ctx) (y : Seid) (hy : y ≠ r.seid) :
    (handleMod st addr seq r env c).1.lnode.lookup y = st.lnode.lookup y := by
  cases h : st.lnode.lookup r.seid with
  | none =>
    rw [C08_miss st addr seq r env c h]
  | some s0 =>
    obtain ⟨s', hid, _, _, hl⟩ := handleMod_lnode st addr seq r env c s0 h
    rw [hl, C04.lookup_setSess _ r.seid s0 s' h (hid.trans (C04.lookup_some_id st.lnode wf r.seid s0 h)), if_neg hy]
where
  C08_miss (st : State) (addr : String) (seq : BitVec 24) (r : ModReq) (env : Env) (c : Ctx)
      (h : st.lnode.lookup r.seid = none) : (handleMod st addr seq r env c).1.lnode = st.lnode := by
    simp only [handleMod, h]
    exact sendRsp_lnode st addr _ c

/-- SEID-0 report response: the session found has the control-plane SEID of the answered request and belongs to a
    node that associated from the responder's address -/
theorem seid0_exact (n : LNode) (nodes : List RNode) (rSeid : Seid) (addr : String) (s : Sess)
    (h : n.remoteSess nodes rSeid addr = some s) :
    s.remoteID = rSeid ∧ (nodes.getD s.rnode default).addr = addr := by
  -- the search stopped at the slot `some s`, so the test holds of it
  have hp := List.find?_some (Option.join_eq_some_iff.mp h)
  simpa [matchRemote] using hp

/-- …and the search does not give up early: if ANY live session has that control-plane SEID and that address, one is
    found — however many sessions of other nodes carry the same control-plane SEID, wherever they sit in the table -/
theorem seid0_complete (n : LNode) (nodes : List RNode) (rSeid : Seid) (addr : String) (s : Sess)
    (hs : some s ∈ n.sess) (h1 : s.remoteID = rSeid) (h2 : (nodes.getD s.rnode default).addr = addr) :
    ∃ s', n.remoteSess nodes rSeid addr = some s' ∧ s'.remoteID = rSeid ∧ (nodes.getD s'.rnode default).addr = addr := by
  have hm : matchRemote nodes rSeid addr (some s) = true := by
    simp only [matchRemote, h1, h2, beq_self_eq_true, Bool.and_self]
  cases hf : n.sess.find? (matchRemote nodes rSeid addr) with
  | none => exact absurd hm (by simpa using List.find?_eq_none.mp hf (some s) hs)
  | some o =>
    cases o with
    | none => exact nomatch List.find?_some hf   -- a released slot does not pass the test
    | some s' =>
      have hr : n.remoteSess nodes rSeid addr = some s' := congrArg Option.join hf
      exact ⟨s', hr, seid0_exact n nodes rSeid addr s' hr⟩

/-! ### `DeleteSess` and `RemoteNode.Reset` on the session table -/

theorem deleteSess_lnode (st : State) (h : Nat) (x : Seid) (env : Env) (c : Ctx) :
    (st.deleteSess h x env c).1.lnode =
      if x ∈ (st.nodes.getD h default).sess then C04.applyOp st.lnode (.del x) else st.lnode := by
  unfold State.deleteSess C04.applyOp
  by_cases hx : x ∈ (st.nodes.getD h default).sess
  · simp only [hx, not_true_eq_false, if_false, if_true]
    -- `modNode` leaves the table alone: `deleteSess` branches on the very lookup `applyOp` does
    show (match st.lnode.lookup x with
      | none => _
      | some s => _ : State × Ctx × Sess × List Report).1.lnode = _
    generalize st.lnode.lookup x = o
    cases o <;> rfl
  · simp only [hx, not_false_eq_true, if_true, if_false]

theorem deleteSess_nodeSess (st : State) (h : Nat) (x : Seid) (env : Env) (c : Ctx) :
    ((st.deleteSess h x env c).1.nodes.getD h default).sess = (st.nodes.getD h default).sess.filter (· != x) := by
  have key : ((st.modNode h fun n => { n with sess := n.sess.filter (· != x) }).nodes.getD h default).sess
      = (st.nodes.getD h default).sess.filter (· != x) := by
    simp only [State.modNode, List.getD, List.getElem?_modify, if_true]
    cases st.nodes[h]? <;> rfl
  unfold State.deleteSess
  simp only []
  split
  · -- not recorded: nothing to drop
    rename_i hx
    rw [List.filter_eq_self.mpr]
    intro a ha
    have : a ≠ x := fun e => hx (e ▸ ha)
    simpa using this
  · split <;> exact key

theorem deleteSess_lookup (st : State) (h : Nat) (x : Seid) (env : Env) (c : Ctx) (z : Seid) :
    (st.deleteSess h x env c).1.lnode.lookup z =
      if z = x ∧ x ∈ (st.nodes.getD h default).sess then none else st.lnode.lookup z := by
  rw [deleteSess_lnode]
  by_cases hx : x ∈ (st.nodes.getD h default).sess
  · simp only [hx, if_true, and_true]; exact C04.applyDel_lookup _ x z
  · simp only [hx, if_false, and_false]

/-- removing one session (`DeleteSess`) keeps the table well-formed and leaves every other SEID as it was -/
theorem deleteSess_frame (st : State) (wf : C04.TableWF st.lnode) (h : Nat) (x : Seid) (env : Env) (c : Ctx) :
    C04.TableWF (st.deleteSess h x env c).1.lnode ∧
    ∀ y, y ≠ x → (st.deleteSess h x env c).1.lnode.lookup y = st.lnode.lookup y := by
  refine ⟨?_, fun y hy => by rw [deleteSess_lookup st, if_neg (fun hc => hy hc.1)]⟩
  rw [deleteSess_lnode]
  split
  · exact C04.applyDel_wf _ wf x
  · exact wf

theorem handleDel_lnode (st : State) (addr : String) (seq : BitVec 24) (x : Seid) (env : Env) (c : Ctx) (s0 : Sess)
    (h : st.lnode.lookup x = some s0) :
    (handleDel st addr seq x env c).1.lnode = (st.deleteSess s0.rnode x env c).1.lnode := by
  simp only [handleDel, h]
  exact sendRsp_lnode ..

/-- Deletion Request: every other SEID resolves exactly as before -/
theorem del_frame (st : State) (wf : C04.TableWF st.lnode) (addr : String) (seq : BitVec 24) (x : Seid)
    (env : Env) (c : Ctx) (y : Seid) (hy : y ≠ x) :
    (handleDel st addr seq x env c).1.lnode.lookup y = st.lnode.lookup y := by
  cases h : st.lnode.lookup x with
  | none => simp only [handleDel, h]; rw [sendRsp_lnode]
  | some s0 => rw [handleDel_lnode st addr seq x env c s0 h, deleteSess_lookup st, if_neg (fun hc => hy hc.1)]

/-- Session Deletion Request for a live session recorded with its node: afterwards the SEID resolves to nothing (any later
    request for it is answered "session context not found") -/
theorem del_unresolves (st : State) (wf : C04.TableWF st.lnode) (addr : String) (seq : BitVec 24) (x : Seid)
    (env : Env) (c : Ctx) (s0 : Sess) (h : st.lnode.lookup x = some s0)
    (hm : x ∈ (st.nodes.getD s0.rnode default).sess) :
    (handleDel st addr seq x env c).1.lnode.lookup x = none := by
  rw [handleDel_lnode st addr seq x env c s0 h, deleteSess_lookup st, if_pos ⟨rfl, hm⟩]

theorem resetNode_lookup (st : State) (h : Nat) (env : Env) (c : Ctx) (z : Seid) :
    (st.resetNode h env c).1.lnode.lookup z = if z ∈ (st.nodes.getD h default).sess then none else st.lnode.lookup z := by
  have fold : ∀ (order : List Seid) (acc : State × Ctx),
      (order.foldl (fun (acc : State × Ctx) x =>
        ((acc.1.deleteSess h x env acc.2).1, (acc.1.deleteSess h x env acc.2).2.1)) acc).1.lnode.lookup z
      = if z ∈ order ∧ z ∈ (acc.1.nodes.getD h default).sess then none else acc.1.lnode.lookup z := by
    intro order
    induction order with
    | nil => intro acc; simp
    | cons x xs ih =>
      intro acc
      -- deleting `x` takes it out of the node's set and, if it was there, out of the table
      rw [List.foldl_cons, ih, deleteSess_nodeSess, deleteSess_lookup acc.1]
      by_cases hzx : z = x
      · subst hzx; simp
      · simp [hzx]
  have := fold (arrange (st.nodes.getD h default).sess env.sessOrder) (st, c)
  simp only [mem_arrange, and_self] at this
  exact this

/-- re-association (`RemoteNode.Reset`): only SEIDs in the re-associating node's own set can be affected; every
    SEID outside that set — the sessions of every other node — resolves exactly as before -/
theorem reset_frame (st : State) (wf : C04.TableWF st.lnode) (h : Nat) (env : Env) (c : Ctx) (y : Seid)
    (hy : y ∉ (st.nodes.getD h default).sess) :
    (st.resetNode h env c).1.lnode.lookup y = st.lnode.lookup y := by
  rw [resetNode_lookup st, if_neg hy]

/-- **re-association sweeps the node's sessions**: after `RemoteNode.Reset`, every SEID that was in the node's set resolves
    to nothing — whatever order the sessions are closed in and whatever the data plane answers; together with `reset_frame`
    (no other SEID is touched) this is the re-association clause of C04 / C05 -/
theorem reset_sweeps (st : State) (wf : C04.TableWF st.lnode) (h : Nat) (env : Env) (c : Ctx) (hh : h < st.nodes.length)
    (x : Seid) (hx : x ∈ (st.nodes.getD h default).sess) :
    (st.resetNode h env c).1.lnode.lookup x = none := by
  rw [resetNode_lookup st, if_pos hx]

/-! ### non-vacuity: two sessions with coinciding rule ids and control-plane SEIDs -/
example :
    let st0 : State := {}
    let (st1, _) := step st0 (.request "p1" 1 (.assoc (some (.v4 "p1")))) {}
    let (st2, _) := step st1 (.request "p2" 1 (.assoc (some (.v4 "p2")))) {}
    let (st3, _) := step st2 (.request "p1" 2 (.est { nodeID := some (.v4 "p1"), cpSeid := some 7#64, far := [{ id := some 1 }] }))
                      { pending := [(default, { ok := true })] }
    let (st4, _) := step st3 (.request "p2" 2 (.est { nodeID := some (.v4 "p2"), cpSeid := some 7#64, far := [{ id := some 1 }] }))
                      { pending := [(default, { ok := true })] }
    let (st5, o5) := step st4 (.request "p2" 3 (.mod { seid := 2, rfar := [{ id := some 1 }] }))
                      { pending := [(default, { ok := true })] }
    (st5.lnode.lookup 1).map (·.fars) = some [1] ∧ (st5.lnode.lookup 2).map (·.fars) = some [] ∧
    o5.head? = some (Out.dp { seid := 2, op := .remove, kind := .far, id := 1 } { ok := true }) := by decide

/-- **known finding `takeoverNode`, on the model (by evaluation)**: nodes p1 and p2 with one session each (1 and 2); p1's
    session is taken over by node id p2 (Modification Request with a Node ID).  Then node id p2 re-associates.  By the
    requests, the sessions under p2 are now 1 (taken over) and 2 (established under it).  The mechanism renamed p1's whole
    node object and overwrote p2's entry: the re-association removes session 1 only — session 2 survives, and no later
    re-association of either id reaches it. -/
theorem takeover_orphans :
    let st0 : State := {}
    let (st1, _) := step st0 (.request "p1" 1 (.assoc (some (.v4 "p1")))) {}
    let (st2, _) := step st1 (.request "p2" 1 (.assoc (some (.v4 "p2")))) {}
    let (st3, _) := step st2 (.request "p1" 2 (.est { nodeID := some (.v4 "p1"), cpSeid := some 7#64 })) {}
    let (st4, _) := step st3 (.request "p2" 2 (.est { nodeID := some (.v4 "p2"), cpSeid := some 8#64 })) {}
    let (st5, _) := step st4 (.request "p1" 3 (.mod { seid := 1, nodeID := some (.v4 "p2") })) {}
    let (st6, _) := step st5 (.request "p2" 3 (.assoc (some (.v4 "p2")))) {}
    let (st7, _) := step st6 (.request "p1" 4 (.assoc (some (.v4 "p1")))) {}
    (st4.lnode.lookup 1).isSome = true ∧ (st4.lnode.lookup 2).isSome = true ∧
    st4.rnodes.length = 2 ∧ st5.rnodes.length = 1 ∧
    (st6.lnode.lookup 1).isSome = false ∧ (st6.lnode.lookup 2).isSome = true ∧
    (st7.lnode.lookup 2).isSome = true := by decide

end UpfVerif.C05
