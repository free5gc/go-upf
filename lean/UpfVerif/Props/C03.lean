import UpfVerif.Model.Xlate
import UpfVerif.Spec.Rules
import UpfVerif.Spec.Arrange
import UpfVerif.Lemmas.Xlate
import UpfVerif.Lemmas.Arrange
import UpfVerif.Lemmas.Bits
import UpfVerif.Lemmas.List
import UpfVerif.Lemmas.CoreCalls
import UpfVerif.Model.Perio
/-
C03 — QER, URR and BAR reach the kernel exactly as the SMF specified them.

Same scheme as C02: for every content `p` and every arrangement `cs` of it as child IEs, the request the model of
`gtp5g.go` builds reads back (independent gtp5g reader) as `expect… link seid p`.  In particular the 40-bit rates
(`rate_split`: high 32 bits and low 8 bits recombine to the rate, uplink under the UL attributes, downlink under the DL
ones), the trigger word, the volume flags with each volume under its own flag.  `createURR_registration`: a Create URR is
registered for periodic querying with its period iff its triggers include PERIO.
-/
namespace UpfVerif.C03
open UpfVerif.Netlink UpfVerif.Gtp5gRead UpfVerif.Rules UpfVerif.Xlate UpfVerif.XlateL UpfVerif.Arrange
open UpfVerif.Gen

theorem consts_qer_urr_bar :
    [gtp5gnl.QER_ID, gtp5gnl.QER_GATE, gtp5gnl.QER_MBR, gtp5gnl.QER_GBR, gtp5gnl.QER_CORR_ID, gtp5gnl.QER_RQI, gtp5gnl.QER_QFI,
     gtp5gnl.QER_PPI, gtp5gnl.QER_SEID, gtp5gnl.QER_MBR_UL_HIGH32, gtp5gnl.QER_MBR_UL_LOW8, gtp5gnl.QER_MBR_DL_HIGH32,
     gtp5gnl.QER_MBR_DL_LOW8, gtp5gnl.QER_GBR_UL_HIGH32, gtp5gnl.QER_GBR_UL_LOW8, gtp5gnl.QER_GBR_DL_HIGH32, gtp5gnl.QER_GBR_DL_LOW8,
     gtp5gnl.URR_ID, gtp5gnl.URR_MEASUREMENT_METHOD, gtp5gnl.URR_REPORTING_TRIGGER, gtp5gnl.URR_MEASUREMENT_PERIOD,
     gtp5gnl.URR_MEASUREMENT_INFO, gtp5gnl.URR_SEID, gtp5gnl.URR_VOLUME_THRESHOLD, gtp5gnl.URR_VOLUME_QUOTA,
     gtp5gnl.URR_VOLUME_THRESHOLD_FLAG, gtp5gnl.URR_VOLUME_THRESHOLD_TOVOL, gtp5gnl.URR_VOLUME_THRESHOLD_UVOL, gtp5gnl.URR_VOLUME_THRESHOLD_DVOL,
     gtp5gnl.URR_VOLUME_QUOTA_FLAG, gtp5gnl.URR_VOLUME_QUOTA_TOVOL, gtp5gnl.URR_VOLUME_QUOTA_UVOL, gtp5gnl.URR_VOLUME_QUOTA_DVOL,
     gtp5gnl.BAR_ID, gtp5gnl.BAR_DOWNLINK_DATA_NOTIFICATION_DELAY, gtp5gnl.BAR_BUFFERING_PACKETS_COUNT, gtp5gnl.BAR_SEID,
     gtp5gnl.CMD_ADD_QER, gtp5gnl.CMD_ADD_URR, gtp5gnl.CMD_ADD_BAR, report.RPT_TRIG_PERIO] =
    [A.qerId, A.qerGate, A.qerMbr, A.qerGbr, A.qerCorrId, A.qerRqi, A.qerQfi, A.qerPpi, A.qerSeid,
     A.rateUlHigh, A.rateUlLow, A.rateDlHigh, A.rateDlLow, A.rateUlHigh, A.rateUlLow, A.rateDlHigh, A.rateDlLow,
     A.urrId, A.urrMethod, A.urrTrigger, A.urrPeriod, A.urrInfo, A.urrSeid, A.urrVolThreshold, A.urrVolQuota,
     A.volFlag, A.volTotal, A.volUplink, A.volDownlink, A.volFlag, A.volTotal, A.volUplink, A.volDownlink,
     A.barId, A.barDelay, A.barPktCount, A.barSeid, Cmd.addQer, Cmd.addUrr, Cmd.addBar, 1] := by decide

/-! ### QER -/

/-- the split of a 40-bit rate into a 32-bit and an 8-bit attribute loses nothing -/
theorem rate_split (r : Nat) (h : r < 2 ^ 40) :
    rd32 (le32 (r / 256)) * 256 + rd8 [BitVec.ofNat 8 r] = r := by
  rw [rd32_le32' _ (Nat.div_lt_of_lt_mul h)]
  show r / 256 * 256 + r % 256 = r
  exact Nat.div_add_mod' r 256

theorem readRate_rateAttrs (r : Nat × Nat) (h : r.1 < 2 ^ 40 ∧ r.2 < 2 ^ 40) :
    readRate (rateAttrs A.rateUlHigh A.rateUlLow A.rateDlHigh A.rateDlLow r.1 r.2) = expectRate r := by
  show RateView.mk (some (rd32 (le32 (r.1 / 256)) * 256 + rd8 [BitVec.ofNat 8 r.1]))
      (some (rd32 (le32 (r.2 / 256)) * 256 + rd8 [BitVec.ofNat 8 r.2])) = _
  rw [rate_split r.1 h.1, rate_split r.2 h.2]; rfl

theorem qer_corr (c : QerChild) : leaves (qerChildAttrs c) A.qerCorrId = ((QerChild.corr? c).map le32).toList := by
  cases c <;> rfl
theorem qer_gate (c : QerChild) : leaves (qerChildAttrs c) A.qerGate = ((QerChild.gate? c).map fun v => [BitVec.ofNat 8 v]).toList := by
  cases c <;> rfl
theorem qer_qfi (c : QerChild) : leaves (qerChildAttrs c) A.qerQfi = ((QerChild.qfi? c).map fun v => [BitVec.ofNat 8 v]).toList := by
  cases c <;> rfl
theorem qer_rqi (c : QerChild) : leaves (qerChildAttrs c) A.qerRqi = ((QerChild.rqi? c).map fun v => [BitVec.ofNat 8 v]).toList := by
  cases c <;> rfl
theorem qer_ppi (c : QerChild) : leaves (qerChildAttrs c) A.qerPpi = ((QerChild.ppi? c).map fun v => [BitVec.ofNat 8 (v % 8)]).toList := by
  cases c <;> rfl
theorem qer_mbr (c : QerChild) : nests (qerChildAttrs c) A.qerMbr =
    ((QerChild.mbr? c).map fun r => rateAttrs A.rateUlHigh A.rateUlLow A.rateDlHigh A.rateDlLow r.1 r.2).toList := by
  cases c <;> rfl
theorem qer_gbr (c : QerChild) : nests (qerChildAttrs c) A.qerGbr =
    ((QerChild.gbr? c).map fun r => rateAttrs A.rateUlHigh A.rateUlLow A.rateDlHigh A.rateDlLow r.1 r.2).toList := by
  cases c <;> rfl
theorem qer_noOid (c : QerChild) (t : Nat) (ht : t = A.link ∨ t = A.qerId ∨ t = A.qerSeid) : leaves (qerChildAttrs c) t = [] := by
  rcases ht with rfl | rfl | rfl <;> cases c <;> rfl

/-- **Create / Update QER** (`fl` = the netlink flags of either) -/
theorem qer_exact (link seid fl : Nat) (cs : List QerChild) (p : QerSpec) (h : ArrangesQer cs p) (wf : p.WF)
    (hl : link < 2 ^ 32) (hs : seid < 2 ^ 64) :
    (qerReq link seid fl cs).cmd = Cmd.addQer ∧ readQer (qerReq link seid fl cs).attrs = expectQer link seid p := by
  refine ⟨rfl, ?_⟩
  obtain ⟨wid, wcorr, wgate, wmbr, wgbr, wqfi, wrqi, wppi⟩ := wf
  unfold readQer expectQer qerReq
  rw [lastId_one QerChild.qerid? qerId (fun _ => rfl) (fun c cs cur => by cases c <;> rfl) h.id, QerView.mk.injEq]
  and_intros
  · exact congrArg some (rd32_le32' link hl)
  · exact congrArg some (rd64_le64' seid hs)
  · exact congrArg some (rd32_le32' p.id wid)
  · exact read1' rfl qer_corr h.corr fun v hv => rd32_le32' v (wcorr v hv)
  · exact read1' rfl qer_gate h.gate fun v hv => rd8_u8 v (wgate v hv)
  · exact read1 rfl qer_mbr h.mbr fun r hr => readRate_rateAttrs r (wmbr r hr)
  · exact read1 rfl qer_gbr h.gbr fun r hr => readRate_rateAttrs r (wgbr r hr)
  · exact read1' rfl qer_qfi h.qfi fun v hv => rd8_u8 v (wqfi v hv)
  · exact read1' rfl qer_rqi h.rqi fun v hv => rd8_u8 v (wrqi v hv)
  · exact read1' rfl qer_ppi h.ppi fun v hv => by
      rw [Nat.mod_eq_of_lt (wppi v hv)]; exact rd8_u8 v (by have := wppi v hv; omega)

theorem qer_order_independent (link seid fl : Nat) (cs cs' : List QerChild) (p : QerSpec)
    (h : ArrangesQer cs p) (h' : ArrangesQer cs' p) (wf : p.WF) (hl : link < 2 ^ 32) (hs : seid < 2 ^ 64) :
    readQer (qerReq link seid fl cs).attrs = readQer (qerReq link seid fl cs').attrs := by
  rw [(qer_exact link seid fl cs p h wf hl hs).2, (qer_exact link seid fl cs' p h' wf hl hs).2]

theorem qer_bytes (link seid fl : Nat) (cs : List QerChild) (p : QerSpec) (h : ArrangesQer cs p) (wf : p.WF)
    (hl : link < 2 ^ 32) (hs : seid < 2 ^ 64) (hsz : wfList (qerReq link seid fl cs).attrs = true) :
    (decodeTree (encList (qerReq link seid fl cs).attrs)).map readQer = some (expectQer link seid p) :=
  bytes_of_read hsz (qer_exact link seid fl cs p h wf hl hs).2

/-! ### URR -/

theorem urrId_eq {cs : List UrrChild} {i : Nat} (h : cs.filterMap UrrChild.urrid? = [i]) : urrId cs 0 = i :=
  lastId_one UrrChild.urrid? urrId (fun _ => rfl) (fun c cs cur => by cases c <;> rfl) h

/-- the trigger word handed to the kernel is the IE's octets, little-endian (C19 names the bits) -/
theorem trigWord_eq (b : Bytes) (hb : 2 ≤ b.length) : (Bits.leWord 32 b).toNat = trigWord b := by
  refine (Bits.leWord_toNat_take 4 b).trans ?_
  match b, hb with
  | [b0, b1], _ => rfl
  | [b0, b1, b2], _ | b0 :: b1 :: b2 :: b3 :: rest, _ =>
    -- 256 * (b1 + 256 * (b2 + …)) multiplied out
    simp only [List.take, Bits.leNat, trigWord, Nat.mul_zero, Nat.add_zero, Nat.mul_add, ← Nat.mul_assoc, Nat.add_assoc]

theorem readVol_volAttrs (v : VolSpec) (wf : v.WF) :
    readVol (volAttrs A.volFlag A.volTotal A.volUplink A.volDownlink v.flags v.total v.uplink v.downlink) = expectVol v := by
  obtain ⟨hf, _, ht, hu, hd⟩ := wf
  unfold volAttrs expectVol
  -- whichever volumes the flags name: what the reader finds under each type, then the values read back
  generalize (v.flags % 2 == 1) = t, (v.flags / 2 % 2 == 1) = u, (v.flags / 4 % 2 == 1) = d
  refine Eq.trans (b := VolView.mk (some (rd8 [BitVec.ofNat 8 v.flags])) (if t then some (rd64 (le64 v.total)) else none)
    (if u then some (rd64 (le64 v.uplink)) else none) (if d then some (rd64 (le64 v.downlink)) else none)) ?_ ?_
  · cases t <;> cases u <;> cases d <;> rfl
  · rw [rd8_u8 _ (by omega), rd64_le64' _ ht, rd64_le64' _ hu, rd64_le64' _ hd]

/-- what a Volume Threshold / Volume Quota child hands over: nothing when it names no volume -/
def volNest (v : VolSpec) : Option (List Attr) :=
  if v.flags % 8 == 0 then none
  else some (volAttrs A.volFlag A.volTotal A.volUplink A.volDownlink v.flags v.total v.uplink v.downlink)

/-- a well-formed volume IE names a volume, so it is handed over -/
theorem readVol_volNest (v : VolSpec) (wf : v.WF) : (volNest v).map readVol = some (expectVol v) := by
  have : (v.flags % 8 == 0) = false := by have := wf.1; have := wf.2.1; simp; omega
  rw [volNest, this]
  exact congrArg some (readVol_volAttrs v wf)

theorem urr_mm (c : UrrChild) : leaves (urrChildAttrs c) A.urrMethod = ((UrrChild.mm? c).map fun v => [BitVec.ofNat 8 v]).toList := by
  cases c with
  | rt | vth | vqu => simp only [urrChildAttrs]; split <;> rfl
  | _ => rfl
theorem urr_mi (c : UrrChild) : leaves (urrChildAttrs c) A.urrInfo = ((UrrChild.mi? c).map le64).toList := by
  cases c with
  | rt | vth | vqu => simp only [urrChildAttrs]; split <;> rfl
  | _ => rfl
/-- a trigger IE that does not unmarshal hands over nothing -/
theorem urr_rt (c : UrrChild) : leaves (urrChildAttrs c) A.urrTrigger =
    ((UrrChild.rt? c).bind fun b => (Flags.rptUnmarshal b).map fun w => le32 w.toNat).toList := by
  cases c with
  | vth | vqu => simp only [urrChildAttrs]; split <;> rfl
  | rt b =>
    show leaves (match Flags.rptUnmarshal b with | some f => [_] | none => []) _ = ((Flags.rptUnmarshal b).map _).toList
    cases Flags.rptUnmarshal b <;> rfl
  | _ => rfl
theorem urr_vth (c : UrrChild) : nests (urrChildAttrs c) A.urrVolThreshold = ((UrrChild.vth? c).bind volNest).toList := by
  cases c with
  | rt | vqu => simp only [urrChildAttrs]; split <;> rfl
  | vth f a b d => exact nests_ite _ _ _
  | _ => rfl
theorem urr_vqu (c : UrrChild) : nests (urrChildAttrs c) A.urrVolQuota = ((UrrChild.vqu? c).bind volNest).toList := by
  cases c with
  | rt | vth => simp only [urrChildAttrs]; split <;> rfl
  | vqu f a b d => exact nests_ite _ _ _
  | _ => rfl
theorem urr_noOid (c : UrrChild) (t : Nat) (ht : t = A.link ∨ t = A.urrId ∨ t = A.urrSeid) : leaves (urrChildAttrs c) t = [] := by
  rcases ht with rfl | rfl | rfl <;> cases c with
  | rt | vth | vqu => simp only [urrChildAttrs]; split <;> rfl
  | _ => rfl

theorem readUrr_attrs (link seid fl : Nat) (cs : List UrrChild) (p : UrrSpec) (h : ArrangesUrr cs p) (wf : p.WF)
    (hl : link < 2 ^ 32) (hs : seid < 2 ^ 64) :
    readUrr (urrReq link seid fl cs).attrs = expectUrr link seid p := by
  obtain ⟨wid, wmm, wrt, wmi, wth, wqu⟩ := wf
  unfold readUrr expectUrr urrReq
  rw [urrId_eq h.id, UrrView.mk.injEq]
  and_intros
  · exact congrArg some (rd32_le32' link hl)
  · exact congrArg some (rd64_le64' seid hs)
  · exact congrArg some (rd32_le32' p.id wid)
  · exact read1' rfl urr_mm h.mm fun v hv => rd8_u8 v (wmm v hv)
  · exact read1? rfl urr_rt h.rt fun b hb => by
      have hb2 : 2 ≤ b.length := by have := wrt b hb; omega
      rw [Bits.rptUnmarshal_eq b hb2]
      exact congrArg some ((rd32_le32' _ (BitVec.isLt _)).trans (trigWord_eq b hb2))
  · exact read1' rfl urr_mi h.mi fun v hv => rd64_le64' v (by have := wmi v hv; omega)
  · exact read1? rfl urr_vth h.vth fun v hv => readVol_volNest v (wth v hv)
  · exact read1? rfl urr_vqu h.vqu fun v hv => readVol_volNest v (wqu v hv)

theorem urrLoopErr_eq (create : Bool) (cs : List UrrChild) : urrLoopErr create cs =
    (((cs.filterMap UrrChild.rt?).any fun b => (Flags.rptUnmarshal b).isNone) ||
      (cs.filterMap UrrChild.mp?).any fun s => create && s == 0) := by
  induction cs with
  | nil => rfl
  | cons c cs ih =>
    cases c with
    | rt b => exact (congrArg ((Flags.rptUnmarshal b).isNone || ·) ih).trans (Bool.or_assoc _ _ _).symm
    | mp s => exact (congrArg ((create && s == 0) || ·) ih).trans (Bool.or_left_comm _ _ _)
    | _ => exact ih

theorem urr_noErr (create : Bool) (cs : List UrrChild) (p : UrrSpec) (h : ArrangesUrr cs p) (wf : p.WF)
    (hper : create = true → ∀ s, p.period = some s → 0 < s) : urrLoopErr create cs = false := by
  rw [urrLoopErr_eq, h.rt, h.mp, Bool.or_eq_false_iff, List.any_eq_false, List.any_eq_false]
  constructor
  · intro b hb
    rw [Bits.rptUnmarshal_eq b (by have := wf.2.2.1 b (Option.mem_toList.mp hb); omega)]
    exact Bool.false_ne_true
  · intro s hs
    cases create with
    | false => exact Bool.false_ne_true
    | true => have := hper rfl s (Option.mem_toList.mp hs); simp; omega

theorem isPerio_spec (cs : List UrrChild) (p : UrrSpec) (h : ArrangesUrr cs p) (wf : p.WF) :
    isPerio cs = p.periodic := by
  -- the word tested is the one the last trigger IE unmarshals to
  have htrig : urrTrig cs 0#32 = ((p.triggers.toList.filterMap Flags.rptUnmarshal).getLast?).getD 0#32 := by
    rw [lastId (fun c => (UrrChild.rt? c).bind Flags.rptUnmarshal) urrTrig (fun _ => rfl)
      (fun c cs cur => by cases c <;> rfl), ← List.filterMap_filterMap, h.rt]
  rw [isPerio, show report.RPT_TRIG_PERIO = 2 ^ 0 from rfl, Bits.test_two_pow _ 0 (by decide), htrig]
  unfold UrrSpec.periodic
  cases hq : p.triggers with
  | none => rfl
  | some b =>
    -- a well-formed trigger IE has two octets or three
    match b, wf.2.2.1 b hq with
    | b0 :: b1 :: rest, _ =>
      -- PERIO is bit 0 of the word, and that is bit 0 of the first octet
      rw [Option.toList, List.filterMap_cons, Bits.rptUnmarshal_eq (b0 :: b1 :: rest) (Nat.le_add_left 2 _)]
      exact (Bits.leWord_getLsbD 32 _ 0 0 (by decide)).trans ((Nat.testBit_zero _).trans (Bool.beq_eq_decide_eq _ _).symm)

/-- **Create URR**: accepted, the kernel holds exactly the IE's content, and the URR is registered for periodic querying
    with its measurement period **iff** its triggers include PERIO -/
theorem createURR_exact (link seid : Nat) (cs : List UrrChild) (p : UrrSpec) (h : ArrangesUrr cs p) (wf : p.WF)
    (hper : ∀ s, p.period = some s → 0 < s) (hpp : p.periodic = true → p.period.isSome)
    (hl : link < 2 ^ 32) (hs : seid < 2 ^ 64) :
    ∃ r, createURR link seid cs = ((true, [r]), if p.periodic then some (seid, p.id, p.period.getD 0) else none) ∧
      r.cmd = Cmd.addUrr ∧ readUrr r.attrs = expectUrr link seid p := by
  refine ⟨urrReq link seid flCreate cs, ?_, rfl, readUrr_attrs link seid _ cs p h wf hl hs⟩
  have hp : urrPeriod cs 0 = p.period.getD 0 := by
    rw [lastId UrrChild.mp? urrPeriod (fun _ => rfl) (fun c cs cur => by cases c <;> rfl), h.mp]
    cases p.period <;> rfl
  unfold createURR
  rw [urr_noErr true cs p h wf fun _ => hper, isPerio_spec cs p h wf, urrId_eq h.id, hp]
  cases hq : p.periodic with
  | false => simp
  | true =>
    -- a periodic URR without a period, or with period 0, is refused: `hpp` and `hper` say it has one
    have := hpp hq
    cases hpd : p.period with
    | none => simp [hpd] at this
    | some s => have := hper s hpd; simp; omega

/-- **Update URR**: accepted and exact for the kernel; the model (= the code) makes no change to the periodic
    registration — recorded as known finding `updUrrPerio` (DESIGN.md §8): an Update URR that switches PERIO on or off is
    not reflected in the periodic server -/
theorem updateURR_exact (link seid : Nat) (cs : List UrrChild) (p : UrrSpec) (h : ArrangesUrr cs p) (wf : p.WF)
    (hl : link < 2 ^ 32) (hs : seid < 2 ^ 64) :
    ∃ r, updateURR link seid cs = ((true, [r]), none) ∧ r.cmd = Cmd.addUrr ∧ readUrr r.attrs = expectUrr link seid p := by
  refine ⟨urrReq link seid flUpdate cs, ?_, rfl, readUrr_attrs link seid _ cs p h wf hl hs⟩
  unfold updateURR
  rw [urr_noErr false cs p h wf fun hc => nomatch hc]
  rfl

theorem urr_order_independent (link seid fl : Nat) (cs cs' : List UrrChild) (p : UrrSpec)
    (h : ArrangesUrr cs p) (h' : ArrangesUrr cs' p) (wf : p.WF) (hl : link < 2 ^ 32) (hs : seid < 2 ^ 64) :
    readUrr (urrReq link seid fl cs).attrs = readUrr (urrReq link seid fl cs').attrs := by
  rw [readUrr_attrs link seid fl cs p h wf hl hs, readUrr_attrs link seid fl cs' p h' wf hl hs]

theorem urr_bytes (link seid fl : Nat) (cs : List UrrChild) (p : UrrSpec) (h : ArrangesUrr cs p) (wf : p.WF)
    (hl : link < 2 ^ 32) (hs : seid < 2 ^ 64) (hsz : wfList (urrReq link seid fl cs).attrs = true) :
    (decodeTree (encList (urrReq link seid fl cs).attrs)).map readUrr = some (expectUrr link seid p) :=
  bytes_of_read hsz (readUrr_attrs link seid fl cs p h wf hl hs)

/-! ### BAR -/

theorem bar_ddnd (c : BarChild) : leaves (barChildAttrs c) A.barDelay =
    ((BarChild.ddnd? c).map fun v => [BitVec.ofNat 8 (ddndAttrVal v)]).toList := by
  cases c <;> rfl
theorem bar_sbpc (c : BarChild) : leaves (barChildAttrs c) A.barPktCount = ((BarChild.sbpc? c).map le16).toList := by
  cases c <;> rfl
theorem bar_noOid (c : BarChild) (t : Nat) (ht : t = A.link ∨ t = A.barId ∨ t = A.barSeid) : leaves (barChildAttrs c) t = [] := by
  rcases ht with rfl | rfl | rfl <;> cases c <;> rfl

/-- **Create / Update BAR**: id, SEID, buffering delay (the IE's octet) and suggested packet count, exact -/
theorem bar_exact (link seid fl : Nat) (cs : List BarChild) (p : BarSpec) (h : ArrangesBar cs p) (wf : p.WF)
    (hl : link < 2 ^ 32) (hs : seid < 2 ^ 64) :
    (barReq link seid fl cs).cmd = Cmd.addBar ∧ readBar (barReq link seid fl cs).attrs = expectBar link seid p := by
  refine ⟨rfl, ?_⟩
  obtain ⟨wid, wd, wc⟩ := wf
  unfold readBar expectBar barReq
  rw [lastId_one BarChild.barid? barId (fun _ => rfl) (fun c cs cur => by cases c <;> rfl) h.id, BarView.mk.injEq]
  and_intros
  · exact congrArg some (rd32_le32' link hl)
  · exact congrArg some (rd64_le64' seid hs)
  · exact congrArg some (rd8_u8 p.id wid)
  · exact read1' rfl bar_ddnd h.ddnd fun v hv => by
      rw [ddndAttrVal, Nat.mul_div_cancel _ (by decide)]; exact rd8_u8 v (wd v hv)
  · exact read1' rfl bar_sbpc h.sbpc fun v hv => rd16_le16' v (by have := wc v hv; omega)

theorem bar_bytes (link seid fl : Nat) (cs : List BarChild) (p : BarSpec) (h : ArrangesBar cs p) (wf : p.WF)
    (hl : link < 2 ^ 32) (hs : seid < 2 ^ 64) (hsz : wfList (barReq link seid fl cs).attrs = true) :
    (decodeTree (encList (barReq link seid fl cs).attrs)).map readBar = some (expectBar link seid p) :=
  bytes_of_read hsz (bar_exact link seid fl cs p h wf hl hs).2

/-! ### the run-time predicate is an instance of the theorems -/

theorem qer_predicate (link seid fl : Nat) (cs : List QerChild) (p : QerSpec) (h : specQer cs = some p) (wf : p.WF)
    (hl : link < 2 ^ 32) (hs : seid < 2 ^ 64) :
    readQer (qerReq link seid fl cs).attrs = expectQer link seid p :=
  (qer_exact link seid fl cs p (specQer_arranges cs p h) wf hl hs).2

theorem urr_predicate (link seid fl : Nat) (cs : List UrrChild) (p : UrrSpec) (h : specUrr cs = some p) (wf : p.WF)
    (hl : link < 2 ^ 32) (hs : seid < 2 ^ 64) :
    readUrr (urrReq link seid fl cs).attrs = expectUrr link seid p :=
  readUrr_attrs link seid fl cs p (specUrr_arranges cs p h) wf hl hs

theorem bar_predicate (link seid fl : Nat) (cs : List BarChild) (p : BarSpec) (h : specBar cs = some p) (wf : p.WF)
    (hl : link < 2 ^ 32) (hs : seid < 2 ^ 64) :
    readBar (barReq link seid fl cs).attrs = expectBar link seid p :=
  (bar_exact link seid fl cs p (specBar_arranges cs p h) wf hl hs).2

/-! ### the registration of a periodic URR stays what its Create URR made it

`Gtp5g.CreateURR` registers the URR with the periodic server (ADD event) before it hands the rule to the kernel.  When the
same Create URR arrives again while the rule is live, the kernel refuses it (EEXIST) and the ADD has been posted a second
time: the groups — and with them what every later tick queries — are exactly what the first Create URR left.  (The
differential `again=` step of the drv stream checks that the real driver does nothing else on that path.) -/

theorem addG_idem (gs : List Perio.Group) (s u p : Nat) :
    Perio.addG (Perio.addG gs s u p) s u p = Perio.addG gs s u p := by
  induction gs with
  | nil => simp [Perio.addG]
  | cons g gs ih =>
    by_cases hp : g.period = p
    · by_cases hm : (s, u) ∈ g.mem <;> simp [Perio.addG, hp, hm]
    · simp [Perio.addG, hp, ih]

/-- a second, refused Create URR of a live periodic URR: the periodic server's state, and the query of every period, are
    unchanged -/
theorem create_again_keeps_registration (st : Perio.St) (s u p : Nat) :
    Perio.step (Perio.step st (.add s u p)) (.add s u p) = Perio.step st (.add s u p) ∧
    ∀ q, Perio.query (Perio.step (Perio.step st (.add s u p)) (.add s u p)) q = Perio.query (Perio.step st (.add s u p)) q := by
  have h : Perio.step (Perio.step st (.add s u p)) (.add s u p) = Perio.step st (.add s u p) := by
    by_cases hc : st.closed
    · simp [Perio.step, hc]
    · simp [Perio.step, hc, addG_idem]
  exact ⟨h, fun q => by rw [h]⟩

/-! ### the session layer above the driver hands every Update on

`Sess.UpdateQER / UpdateFAR / UpdateBAR` (model `Sess.updateSimple`): when the session has the rule, the IE is handed to the
data plane — one call, under the session's SEID, with the rule id — and nothing the session remembers of earlier updates
enters: the outcome is a function of the session's rule ids and the IE alone, so the same Update twice gives two calls, and
an Update after remove / re-create of the id gives a call again. -/

theorem update_reaches_data_plane (s : Core.Sess) (k : Core.Kind) (id : Nat) (c : Core.Ctx) (h : id ∈ s.ids k) :
    ∃ a, (s.updateSimple k { id := some id } c).2.outs =
      c.outs ++ [Core.Out.dp { seid := s.localID, op := .update, kind := k, id := id } a] ∧
    (s.updateSimple k { id := some id } c).1 = s := by
  unfold Core.Sess.updateSimple
  simp only [h, if_true]
  exact ⟨_, Core.call_outs c _, trivial⟩

/-- the same Update IE twice in a row: two data-plane calls (no suppression of "redundant" updates) -/
theorem update_twice_two_calls (s : Core.Sess) (k : Core.Kind) (id : Nat) (c : Core.Ctx) (h : id ∈ s.ids k) :
    ∃ a b, ((s.updateSimple k { id := some id } c).1.updateSimple k { id := some id } (s.updateSimple k { id := some id } c).2).2.outs =
      c.outs ++ [Core.Out.dp { seid := s.localID, op := .update, kind := k, id := id } a,
                 Core.Out.dp { seid := s.localID, op := .update, kind := k, id := id } b] := by
  obtain ⟨a, h1, hs⟩ := update_reaches_data_plane s k id c h
  rw [hs]
  obtain ⟨b, h2, _⟩ := update_reaches_data_plane s k id (s.updateSimple k { id := some id } c).2 h
  exact ⟨a, b, by rw [h2, h1, List.append_assoc]; rfl⟩

end UpfVerif.C03

/-! ### non-vacuity -/
namespace UpfVerif.C03.Ex
open UpfVerif.Netlink UpfVerif.Gtp5gRead UpfVerif.Rules UpfVerif.Xlate UpfVerif.XlateL UpfVerif.C03 UpfVerif.Arrange

/-- a QER whose uplink and downlink rates differ and exceed 2^32, children in an unusual order -/
def exQer : QerSpec := { id := 4294967295, corrId := none, gate := some 5, mbr := some (1099511627775, 4294967296), gbr := none,
                         qfi := some 63, rqi := none, ppi := some 7 }
def exQerChildren : List QerChild := [.ppi 7, .mbr 1099511627775 4294967296, .qfi 63, .qerid 4294967295, .gate 5]
theorem exQerArr : ArrangesQer exQerChildren exQer ∧ exQer.WF := by
  refine ⟨⟨rfl, rfl, rfl, rfl, rfl, rfl, rfl, rfl⟩, by decide, ?_, ?_, ?_, ?_, ?_, ?_, ?_⟩ <;>
    intro v h <;> simp [exQer] at h <;> subst h <;> decide
example : (readQer (qerReq 7 1 flCreate exQerChildren).attrs).mbr = some { ul := some 1099511627775, dl := some 4294967296 } := by
  rw [(qer_exact 7 1 flCreate exQerChildren exQer exQerArr.1 exQerArr.2 (by decide) (by decide)).2]; rfl

/-- a periodic URR (PERIO = bit 1 of octet 5) with period 10 s and a threshold naming total and downlink volume -/
def exUrr : UrrSpec := { id := 3, method := some 2, triggers := some [0x03#8, 0x00#8, 0x01#8], period := some 10, info := none,
                         threshold := some ⟨5, 1000, 0, 18446744073709551615⟩, quota := none }
def exUrrChildren : List UrrChild := [.vth 5 1000 0 18446744073709551615, .mp 10, .rt [0x03#8, 0x00#8, 0x01#8], .urrid 3, .mm 2]
theorem exUrrArr : ArrangesUrr exUrrChildren exUrr ∧ exUrr.WF := by
  refine ⟨⟨rfl, rfl, rfl, rfl, rfl, rfl, rfl⟩, by decide, ?_, ?_, ?_, ?_, ?_⟩
  · intro v h; cases h; decide
  · intro v h; cases h; decide
  · intro v h; cases h
  · intro v h; cases h; exact ⟨by decide, by decide, by decide, by decide, by decide⟩
  · intro v h; cases h
example : ∃ r, createURR 7 9 exUrrChildren = ((true, [r]), some (9, 3, 10)) ∧ (readUrr r.attrs).trigger = some 65539 := by
  obtain ⟨r, h1, _, h3⟩ := createURR_exact 7 9 exUrrChildren exUrr exUrrArr.1 exUrrArr.2
    (by intro s h; cases h; decide) (by intro _; rfl) (by decide) (by decide)
  exact ⟨r, h1, by rw [h3]; rfl⟩

def exBar : BarSpec := { id := 255, delay := some 121, pktCount := some 200 }
def exBarChildren : List BarChild := [.sbpc 200, .ddnd 121, .barid 255]
theorem exBarArr : ArrangesBar exBarChildren exBar ∧ exBar.WF := by
  refine ⟨⟨rfl, rfl, rfl⟩, by decide, ?_, ?_⟩ <;> intro v h <;> cases h <;> decide
example : (readBar (barReq 7 1 flCreate exBarChildren).attrs).delay = some 121 := by
  rw [(bar_exact 7 1 flCreate exBarChildren exBar exBarArr.1 exBarArr.2 (by decide) (by decide)).2]; rfl

/-- the defect repaired by `fix: hand the BAR notification delay …`: the low byte of the nanoseconds is not the delay -/
example : rd8 [BitVec.ofNat 8 (121 * 50000000)] = 128 := by decide

end UpfVerif.C03.Ex
