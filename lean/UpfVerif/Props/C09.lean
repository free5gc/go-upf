/-
C09 — UPF-initiated requests are retried, matched and retired correctly.

Over `Core.step` / `State.sendReq` (pfcp.go:273-283, 153-175; transaction.go:57-109), for a request counter
anywhere in the 32-bit range:
 * the request goes out with the low 24 bits of the counter and is registered under exactly that value, so a
   response carrying the sequence number the request was sent with always finds it (also across 2^24 and 2^32);
 * two requests issued fewer than 2^24 apart carry different sequence numbers;
 * a timer expiry retransmits the identical message while the retry count is below the configured maximum and
   abandons the request (entry deleted, nothing sent) afterwards — at most 1 + N transmissions;
 * a matching response from the peer the request was sent to deletes the entry;
 * a response matching no outstanding request changes nothing.
-/
import UpfVerif.Model.Core
import UpfVerif.Lemmas.List
import UpfVerif.Lemmas.CoreStep
import UpfVerif.Lemmas.Core

namespace UpfVerif.C09
open UpfVerif.Core

/-- sequence number on the wire for counter value `t` -/
def wire (t : BitVec 32) : BitVec 24 := t.setWidth 24

theorem sendReq_spec (st : State) (addr : String) (m : Msg) (c : Ctx) :
    let r := st.sendReq addr m c
    r.2.outs = c.outs ++ [Out.send addr { m with seq := wire st.txSeq }] ∧
    alGet r.1.tx (addr, wire st.txSeq) = some { to := addr, msg := { m with seq := wire st.txSeq }, reqSeid := m.seid.getD 0 } ∧
    r.1.txSeq = st.txSeq + 1 ∧ r.1.lnode = st.lnode ∧ r.1.rx = st.rx := by
  simp [State.sendReq, wire, Ctx.emit]

/-- a response that carries the 24-bit value the request was sent with finds the request — for every position
    of the 32-bit counter, in particular 2^24 - 1, 2^24, 2^32 - 1 -/
theorem match_after_wrap (st : State) (addr : String) (m : Msg) (c : Ctx) (rspSeq : BitVec 24)
    (h : rspSeq = wire st.txSeq) :
    (alGet (st.sendReq addr m c).1.tx (addr, rspSeq)).isSome := by
  subst h
  simp [(sendReq_spec st addr m c).2.1]

/-- requests issued `d` apart, 0 < d < 2^24, never share a sequence number (distinct from every other
    outstanding one as long as fewer than 2^24 are outstanding), also across the 2^24 and 2^32 wrap -/
theorem seq_distinct (t : BitVec 32) (d : Nat) (h0 : 0 < d) (h1 : d < 2 ^ 24) :
    wire (t + BitVec.ofNat 32 d) ≠ wire t := by
  intro hc
  have := congrArg BitVec.toNat hc
  simp only [wire, BitVec.toNat_setWidth, BitVec.toNat_add, BitVec.toNat_ofNat] at this
  have ht := t.isLt
  omega

/-- timer expiry below the maximum: one retransmission of the identical message, the count goes up by one -/
theorem retry (st : State) (addr : String) (seq : BitVec 24) (env : Env) (tx : Tx)
    (h : alGet st.tx (addr, seq) = some tx) (hc : tx.count < st.cfg.maxRetrans) :
    let r := step st (.txTimeout addr seq) env
    r.2 = [Out.send addr tx.msg] ∧ alGet r.1.tx (addr, seq) = some { tx with count := tx.count + 1 } ∧
    r.1.lnode = st.lnode := by
  simp [step, h, hc, Ctx.emit]

/-- after the last retry the request is abandoned: entry released, nothing sent -/
theorem abandon (st : State) (addr : String) (seq : BitVec 24) (env : Env) (tx : Tx)
    (h : alGet st.tx (addr, seq) = some tx) (hc : ¬ tx.count < st.cfg.maxRetrans) :
    let r := step st (.txTimeout addr seq) env
    r.2 = [] ∧ alGet r.1.tx (addr, seq) = none ∧ r.1.lnode = st.lnode := by
  simp [step, h, hc]

/-- hence a request is transmitted at most 1 + N times: the entry created by `sendReq` has count 0, every
    retransmission increases the count, and no retransmission happens at count = N -/
theorem retransmissions_bounded (st : State) (addr : String) (seq : BitVec 24) (env : Env) (tx : Tx)
    (h : alGet st.tx (addr, seq) = some tx) :
    (∃ m, (step st (.txTimeout addr seq) env).2 = [Out.send addr m]) → tx.count + 1 ≤ st.cfg.maxRetrans := by
  intro ⟨m, hm⟩
  by_cases hc : tx.count < st.cfg.maxRetrans
  · omega
  · have := (abandon st addr seq env tx h hc).1
    rw [this] at hm
    cases hm

/-- a matching response (same peer address, same sequence number) stops retransmission: entry released -/
theorem stop_on_response (st : State) (addr : String) (seq : BitVec 24) (seid : Seid) (env : Env) (tx : Tx)
    (h : alGet st.tx (addr, seq) = some tx) (hs : seid ≠ 0) :
    let r := step st (.srResponse addr seq seid) env
    alGet r.1.tx (addr, seq) = none ∧ r.2 = [] ∧ r.1.lnode = st.lnode := by
  have hs' : ¬ seid = 0#64 := hs
  simp [step, h, hs']

/-- responses matching no outstanding request — wrong sequence number, wrong peer, duplicate of an already
    answered one — are ignored without effect -/
theorem unmatched_ignored (st : State) (addr : String) (seq : BitVec 24) (seid : Seid) (env : Env)
    (h : alGet st.tx (addr, seq) = none) :
    step st (.srResponse addr seq seid) env = (st, []) ∧ step st (.otherResponse addr seq) env = (st, []) := by
  simp [step, h]

/-- a timer expiry for a request that is no longer outstanding is ignored as well -/
theorem stale_timeout_ignored (st : State) (addr : String) (seq : BitVec 24) (env : Env)
    (h : alGet st.tx (addr, seq) = none) : step st (.txTimeout addr seq) env = (st, []) := by
  simp [step, h]

/-- **the response overtakes the timeout**: the retransmission timer has fired, its event is still queued, the matching
    response is handled first.  The request is retired by the response and the stale timeout does nothing — no
    retransmission after the answer, whatever the retry budget left -/
theorem answered_then_stale_timeout (st : State) (addr : String) (seq : BitVec 24) (seid : Seid) (env env' : Env) (tx : Tx)
    (h : alGet st.tx (addr, seq) = some tx) (hs : seid ≠ 0) :
    let r1 := step st (.srResponse addr seq seid) env
    let r2 := step r1.1 (.txTimeout addr seq) env'
    r1.2 = [] ∧ r2.2 = [] ∧ r2.1 = r1.1 ∧ alGet r2.1.tx (addr, seq) = none := by
  have h1 := stop_on_response st addr seq seid env tx h hs
  have h2 := stale_timeout_ignored (step st (.srResponse addr seq seid) env).1 addr seq env' h1.1
  refine ⟨h1.2.1, ?_, ?_, ?_⟩
  · rw [h2]
  · rw [h2]
  · rw [h2]; exact h1.1

/-- timer expiries of transmit transactions never touch the receive table (the two kinds of transaction share the key
    format "<address>-<sequence number>"; an expiry is looked up in the table of its own kind only) -/
theorem tx_timeout_keeps_rx (st : State) (addr : String) (seq : BitVec 24) (env : Env) :
    (step st (.txTimeout addr seq) env).1.rx = st.rx :=
  (step_footprint st (.txTimeout addr seq) env).1

/-- and conversely: the expiry of a retention timer (a request RECEIVED) neither retries nor abandons a request sent, and
    sends nothing — whatever key it carries, in particular the key of an outstanding request -/
theorem rx_timeout_keeps_tx (st : State) (addr : String) (seq : BitVec 24) (env : Env) :
    (step st (.rxTimeout addr seq) env).1.tx = st.tx ∧ (step st (.rxTimeout addr seq) env).2 = [] := by
  simp [step]

/-- any run of retention expiries, with any keys: the outstanding requests are exactly as before and nothing has been sent -/
theorem rx_timeouts_keep_tx (evs : List ((String × BitVec 24) × Env)) (st : State) :
    let r := evs.foldl (fun (acc : State × List Out) e =>
      let r := step acc.1 (.rxTimeout e.1.1 e.1.2) e.2
      (r.1, acc.2 ++ r.2)) (st, [])
    r.1.tx = st.tx ∧ r.2 = [] := by
  have h := foldl_fixed (fun (acc : State × List Out) (e : (String × BitVec 24) × Env) =>
      let r := step acc.1 (.rxTimeout e.1.1 e.1.2) e.2
      (r.1, acc.2 ++ r.2)) (fun acc => (acc.1.tx, acc.2)) evs
    (fun e _ acc => by simp [rx_timeout_keeps_tx acc.1 e.1.1 e.1.2 e.2]) (st, [])
  exact Prod.mk.inj h

/-- does the event concern the outstanding request `k` — its response, its own timer expiry — or is it a report (which sends
    a NEW request and so adds to the table)? -/
def Event.concernsTx (k : String × BitVec 24) : Event → Prop
  | .srResponse a q _ => (a, q) = k
  | .otherResponse a q => (a, q) = k
  | .txTimeout a q => (a, q) = k
  | .report _ _ => True
  | _ => False

/-- **an outstanding request is touched by nothing but its own response and its own timer**: requests received (whatever they
    do), responses and expiries of other requests, retention expiries — none retries it, abandons it or changes its retry
    count -/
theorem outstanding_untouched (st : State) (k : String × BitVec 24) (e : Event) (env : Env) (hk : ¬ Event.concernsTx k e) :
    alGet (step st e env).1.tx k = alGet st.tx k := by
  have h := step_footprint st e env
  cases e with
  | srResponse a q x => exact h.2 k (fun hc => hk hc.symm)
  | otherResponse a q => exact h.2 k (fun hc => hk hc.symm)
  | txTimeout a q => exact h.2 k (fun hc => hk hc.symm)
  | report x items => exact absurd trivial hk
  | _ => rw [h.2] -- requests received, retention expiries, `ignored`: the transmit table is as it was

/-- … hence after ANY history of such events the request is outstanding exactly as it was — same message, same retry count -/
theorem outstanding_after_any_history (h : List (Event × Env)) (st : State) (k : String × BitVec 24)
    (hk : ∀ p ∈ h, ¬ Event.concernsTx k p.1) :
    alGet (h.foldl (fun st (p : Event × Env) => (step st p.1 p.2).1) st).tx k = alGet st.tx k :=
  foldl_fixed _ (fun st => alGet st.tx k) h (fun p hp st => outstanding_untouched st k p.1 p.2 (hk p hp)) st

/-! ### the defect repaired by the `fix:` commit, and non-vacuity -/

/-- before the fix the key was the 32-bit counter: at counter 2^24 the request goes out with sequence number 0,
    while the entry sat under 16777216 -/
example : wire (BitVec.ofNat 32 (2 ^ 24)) = 0 ∧ (BitVec.ofNat 32 (2 ^ 24)).toNat ≠ (wire (BitVec.ofNat 32 (2 ^ 24))).toNat := by decide

example :
    let st0 : State := { txSeq := BitVec.ofNat 32 (2 ^ 24 - 1) }
    let (st1, c1) := st0.sendReq "p1" { kind := .srReq, seq := 0 } { pending := [] }
    let (st2, c2) := st1.sendReq "p1" { kind := .srReq, seq := 0 } c1
    st2.tx.map (·.1) = [("p1", 0xffffff#24), ("p1", 0x000000#24)] ∧ c2.outs.length = 2 := by decide

end UpfVerif.C09
