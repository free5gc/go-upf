import UpfVerif.Spec.ConcRules
/-
C17 — session and transaction state is confined to the event loop; notifications are processed exactly once; Stop stops
without a fault.   PARTIAL: a data race is a fact about one execution under the Go memory model; what is proved is the
*discipline* that excludes it, over the access facts REGENERATED from /repo by go/ssa (Gen/Conc.lean) on every run.

* `confined_no_conflict` — the principle, for every schedule: if every access to a location is made by the location's owner
  process, no two accesses by different processes touch the same location (so no pair can race, whatever the interleaving).
* `owner_table` — evaluated by the kernel on the regenerated table: every read or write of a field of PfcpServer,
  LocalNode, RemoteNode, Sess, PDRInfo, URRInfo, Tx/RxTransaction that is reachable from ANY goroutine root other than the
  event loop is (a) one of the hand-over channels, (b) a write inside a constructor, (c) a read of a field that is written
  only inside constructors, or (d) one of the listed exceptions.  The same for the periodic server's own state and its
  goroutine.  A new access from a timer callback, a report producer or the Stop path breaks this theorem.
* `producers_guarded`, `no_close_under_senders` — the stop protocol on the facts: every send into the loop's queues from a
  foreign root sits in a `select` with the loop's `done` channel; no channel with foreign senders is ever closed (except
  `rcvCh`, whose only sender sends its last message before the close is reached).
* `stop_no_fault`, `stop_releases_producers` — the protocol as a transition system, for every interleaving: a notification
  never faults, and once the loop has ended no producer stays blocked; `old_protocol_faults`: the protocol before the
  repair (closing the queues) has a faulting interleaving.
* `fifo_exactly_once` — what is taken off a FIFO queue is exactly what was put in, in order, each once.
-/
namespace UpfVerif.C17
open UpfVerif.Gen.Conc UpfVerif.ConcRules

/-- the ownership rule is the WHOLE synchronisation story: in /repo's current source no mutex, read-write lock, atomic,
    `sync.Pool`, `sync.Once` or `sync.Cond` is used anywhere in the module (only `sync.WaitGroup`, for shutdown) — so a
    structure reachable from two goroutines is protected by ownership and channel hand-over, or not at all -/
theorem no_other_synchronisation : otherSync = [] := by decide

/-! ### the principle -/

structure Ev where
  proc : Nat
  loc : Nat
  write : Bool
deriving DecidableEq, Repr

def conflict (a b : Ev) : Prop := a.loc = b.loc ∧ (a.write = true ∨ b.write = true) ∧ a.proc ≠ b.proc

def Confined (owner : Nat → Nat) (t : List Ev) : Prop := ∀ e ∈ t, e.proc = owner e.loc

/-- for EVERY trace (every schedule of every length): confinement leaves no conflicting pair at all -/
theorem confined_no_conflict (owner : Nat → Nat) (t : List Ev) (h : Confined owner t) :
    ∀ a ∈ t, ∀ b ∈ t, ¬ conflict a b := by
  intro a ha b hb ⟨hl, _, hp⟩
  exact hp (by rw [h a ha, h b hb, hl])

/-! ### the regenerated facts -/

/-- The ownership rule for both owners and its non-vacuity, decided together: the three statements test the same fields of the
    same accesses, and the kernel turns a string of the table into its octets once per evaluation, not once per statement. -/
theorem ownership :
    accesses.all (okFor loopRoot loopTypes handover) = true ∧
    accesses.all (okFor perioRoot ["perio.Server", "perio.PERIOGroup"]
      [("perio.Server", "evtCh"), ("perio.Server", "done"), ("perio.PERIOGroup", "stopCh")]) = true ∧
    (accesses.filter fun a => loopTypes.contains a.typ && a.root == loopRoot).length > 100 ∧
    (accesses.filter fun a => loopTypes.contains a.typ && a.root != loopRoot).length > 20 ∧
    roots.length ≥ 8 := by
  decide +kernel

/-- **session and transaction state is touched by the event loop only** (kernel-evaluated on the regenerated table) -/
theorem owner_table : accesses.all (okFor loopRoot loopTypes handover) = true := ownership.1

/-- the periodic server's groups and tickers are touched by its own goroutine only -/
theorem owner_table_perio :
    accesses.all (okFor perioRoot ["perio.Server", "perio.PERIOGroup"]
      [("perio.Server", "evtCh"), ("perio.Server", "done"), ("perio.PERIOGroup", "stopCh")]) = true := ownership.2.1

/-- non-vacuity: the table is not empty, the loop does touch the state, and foreign roots do reach the server -/
theorem table_nonvacuous :
    (accesses.filter fun a => loopTypes.contains a.typ && a.root == loopRoot).length > 100 ∧
    (accesses.filter fun a => loopTypes.contains a.typ && a.root != loopRoot).length > 20 ∧
    roots.length ≥ 8 := ownership.2.2

/-! ### the stop protocol on the facts -/

/-- every send into the loop's report / timeout queues sits next to a receive on `done` in the same function -/
theorem producers_guarded :
    accesses.all (fun a =>
      !(isSend a.kind && loopQueues.contains (a.typ, a.field)) ||
      (a.kind == "selsend" &&
       accesses.any (fun b => b.root == a.root && b.fn == a.fn && b.typ == "pfcp.PfcpServer" && b.field == "done" && b.kind == "selrecv"))) = true := by
  decide +kernel

/-- no channel that another root sends on is ever closed — except `rcvCh` (its only sender, the receiver goroutine, sends
    its last message, the stop marker, before the loop reaches the close) and the unbuffered per-ticker `stopCh`
    (closed by the one goroutine that also sends on it) -/
theorem no_close_under_senders :
    accesses.all (fun a =>
      !(a.kind == "close") || (a.typ, a.field) == ("pfcp.PfcpServer", "rcvCh") ||
      accesses.all (fun b => !(b.typ == a.typ && b.field == a.field && isSend b.kind) || b.root == a.root)) = true := by
  decide +kernel

/-! ### the stop protocol as a transition system -/

structure Q where
  len : Nat
  cap : Nat
  closed : Bool          -- the queue itself closed (the old protocol)
  done : Bool            -- the loop's `done` channel closed (the loop has ended)
deriving DecidableEq, Repr

inductive Outcome
  | enqueued
  | dropped     -- the loop is gone: the notification is discarded
  | blocked     -- the producer waits (the queue is full and the loop alive)
  | fault       -- send on closed channel
deriving DecidableEq, Repr

/-- `select { case q <- x: case <-done: }` — every outcome the Go semantics allows -/
def notifyNew (q : Q) : List (Outcome × Q) :=
  if q.closed then [(.fault, q)] else
  (if q.len < q.cap then [(.enqueued, { q with len := q.len + 1 })] else []) ++
  (if q.done then [(.dropped, q)] else []) ++
  (if !(q.len < q.cap) && !q.done then [(.blocked, q)] else [])

/-- `q <- x` — the protocol before the repair -/
def notifyOld (q : Q) : List (Outcome × Q) :=
  if q.closed then [(.fault, q)]
  else if q.len < q.cap then [(.enqueued, { q with len := q.len + 1 })] else [(.blocked, q)]

/-- the loop ends: new protocol closes `done`, old protocol closes the queue -/
def loopEndNew (q : Q) : Q := { q with done := true }
def loopEndOld (q : Q) : Q := { q with closed := true }

def take (q : Q) : Q := { q with len := q.len - 1 }

inductive Act | notify | take | loopEnd
deriving DecidableEq, Repr

/-- states reachable under the new protocol from an open queue, by any interleaving of producers, the loop and its end -/
inductive ReachNew : Q → Prop
  | init (cap : Nat) : ReachNew { len := 0, cap := cap, closed := false, done := false }
  | notify {q q' o} : ReachNew q → (o, q') ∈ notifyNew q → ReachNew q'
  | take {q} : ReachNew q → q.done = false → ReachNew (take q)
  | loopEnd {q} : ReachNew q → ReachNew (loopEndNew q)

theorem mem_notifyNew (q : Q) (hc : q.closed = false) (o : Outcome) (q' : Q) :
    (o, q') ∈ notifyNew q ↔
      (q.len < q.cap ∧ o = .enqueued ∧ q' = { q with len := q.len + 1 }) ∨
      (q.done = true ∧ o = .dropped ∧ q' = q) ∨
      (¬ q.len < q.cap ∧ q.done = false ∧ o = .blocked ∧ q' = q) := by
  simp [notifyNew, hc, List.mem_ite_nil_right, and_assoc]

theorem reachNew_open (q : Q) (h : ReachNew q) : q.closed = false := by
  induction h with
  | init => rfl
  | notify _ hm ih =>
    -- no outcome touches `closed`
    rcases (mem_notifyNew _ ih _ _).mp hm with ⟨_, _, rfl⟩ | ⟨_, _, rfl⟩ | ⟨_, _, _, rfl⟩ <;> exact ih
  | take _ _ ih => exact ih
  | loopEnd _ ih => exact ih

/-- **whatever is in flight when the server stops, a notification never faults** -/
theorem stop_no_fault (q : Q) (h : ReachNew q) : ∀ o q', (o, q') ∈ notifyNew q → o ≠ .fault := by
  intro o q' hm
  -- this protocol never closes the queue (`reachNew_open`), and on an open queue the outcomes are the other three
  rcases (mem_notifyNew q (reachNew_open q h) o q').mp hm with ⟨_, rfl, _⟩ | ⟨_, rfl, _⟩ | ⟨_, _, rfl, _⟩ <;> decide

/-- …and once the loop has ended, no producer stays blocked: every notification returns -/
theorem stop_releases_producers (q : Q) (h : ReachNew q) (hd : q.done = true) : ∀ o q', (o, q') ∈ notifyNew q → o ≠ .blocked := by
  intro o q' hm
  rcases (mem_notifyNew q (reachNew_open q h) o q').mp hm with ⟨_, rfl, _⟩ | ⟨_, rfl, _⟩ | ⟨_, hopen, _⟩
  · decide
  · decide
  · -- blocking needs the loop alive
    rw [hd] at hopen
    cases hopen

/-- the protocol before the repair: one producer after the loop's end is enough -/
theorem old_protocol_faults :
    (Outcome.fault, loopEndOld { len := 0, cap := 128, closed := false, done := false }) ∈
      notifyOld (loopEndOld { len := 0, cap := 128, closed := false, done := false }) := by
  decide

/-! ### exactly once -/

/-- a FIFO queue: the items taken so far, then the items still queued, are exactly the items put in, in order -/
def fifoRun : List (Option Nat) → List Nat × List Nat → List Nat × List Nat
  | [], s => s
  | some x :: ops, (q, out) => fifoRun ops (q ++ [x], out)            -- put
  | none :: ops, ([], out) => fifoRun ops ([], out)                     -- take on empty: nothing
  | none :: ops, (y :: q, out) => fifoRun ops (q, out ++ [y])           -- take

theorem fifo_exactly_once (ops : List (Option Nat)) (q out : List Nat) :
    (fifoRun ops (q, out)).2 ++ (fifoRun ops (q, out)).1 = out ++ q ++ ops.filterMap id := by
  induction ops generalizing q out with
  | nil => simp [fifoRun]
  | cons o ops ih =>
    cases o with
    | some x => simp [fifoRun, ih]
    | none => cases q <;> simp [fifoRun, ih]

end UpfVerif.C17
