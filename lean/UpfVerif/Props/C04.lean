/-
C04 — every SEID resolves to exactly the live session it was issued for.

The session table `LocalNode{sess []*Sess; free []uint64}` (node.go:612-690) against the abstract
"partial map SEID ⇀ session": `lookup` is exact for all 2^64 SEID values, allocation returns a non-zero SEID
that no live session holds and disturbs no other entry, release frees exactly one entry, and the
invariant that makes this true is preserved by every operation — hence by every interleaving of
establishments, deletions, re-associations and SEID-0 responses (they reach the table only through
these three operations).
-/
import UpfVerif.Model.Core
import UpfVerif.Lemmas.List

namespace UpfVerif.C04
open UpfVerif.Core

def slot (n : LNode) (i : Nat) : Option Sess := n.sess.getD i none

structure TableWF (n : LNode) : Prop where
  freeNodup : n.free.Nodup
  freeRange : ∀ f ∈ n.free, 1 ≤ f.toNat ∧ f.toNat ≤ n.sess.length
  freeIffNil : ∀ i, i < n.sess.length → (slot n i = none ↔ BitVec.ofNat 64 (i + 1) ∈ n.free)
  ownId : ∀ i s, slot n i = some s → s.localID.toNat = i + 1
  small : n.sess.length < 2 ^ 64

/-- release as `LocalNode.DeleteSess` performs it after `Close` returned -/
def release (n : LNode) (x : Seid) : LNode :=
  { sess := n.sess.set (x.toNat - 1) none, free := n.free ++ [x] }

theorem wf_empty : TableWF {} := by
  constructor <;> simp [slot]

/-! ### lookup is exact, for every 64-bit value -/

@[simp] theorem lookup_zero (n : LNode) : n.lookup 0#64 = none := by simp [LNode.lookup]
theorem lookup_zero' (n : LNode) : n.lookup 0 = none := lookup_zero n

theorem lookup_beyond (n : LNode) (x : Seid) (h : x.toNat > n.sess.length) : n.lookup x = none := by
  unfold LNode.lookup
  by_cases h0 : x = 0#64
  · simp [h0]
  · simp [h0, h]

theorem lookup_eq_slot (n : LNode) (x : Seid) (h0 : x ≠ 0) (h : x.toNat ≤ n.sess.length) :
    n.lookup x = slot n (x.toNat - 1) := by
  unfold LNode.lookup slot
  have h00 : ¬ x = 0#64 := h0
  have h' : ¬ x.toNat > n.sess.length := by omega
  simp [h00, h']

theorem toNat_pos_of_ne_zero (x : Seid) (h : x ≠ 0) : 1 ≤ x.toNat := BitVec.toNat_pos_of_ne_zero h

theorem ne_zero_of_toNat_pos {x : Seid} (h : 1 ≤ x.toNat) : x ≠ 0 := by
  intro hc; subst hc; simp at h

theorem lookup_some_range (n : LNode) (x : Seid) (s : Sess) (h : n.lookup x = some s) :
    1 ≤ x.toNat ∧ x.toNat ≤ n.sess.length := by
  have h0 : x ≠ 0 := fun hc => by rw [hc, lookup_zero'] at h; cases h
  refine ⟨toNat_pos_of_ne_zero x h0, Nat.le_of_not_lt fun hb => ?_⟩
  rw [lookup_beyond n x hb] at h; cases h

/-- a hit returns the session that carries this very SEID -/
theorem lookup_some_id (n : LNode) (wf : TableWF n) (x : Seid) (s : Sess) (h : n.lookup x = some s) :
    s.localID = x := by
  obtain ⟨h1, h2⟩ := lookup_some_range n x s h
  rw [lookup_eq_slot n x (ne_zero_of_toNat_pos h1) h2] at h
  have := wf.ownId _ _ h
  exact BitVec.eq_of_toNat_eq (by omega)

theorem ofNat_toNat_self (x : Seid) : BitVec.ofNat 64 x.toNat = x := by simp

theorem lookup_none_iff_free (n : LNode) (wf : TableWF n) (x : Seid) (h1 : 1 ≤ x.toNat) (h2 : x.toNat ≤ n.sess.length) :
    n.lookup x = none ↔ x ∈ n.free := by
  have e : x.toNat - 1 + 1 = x.toNat := by omega
  rw [lookup_eq_slot n x (ne_zero_of_toNat_pos h1) h2, wf.freeIffNil _ (by omega), e, ofNat_toNat_self]

theorem lookup_free (n : LNode) (wf : TableWF n) (x : Seid) (h : x ∈ n.free) : n.lookup x = none :=
  have ⟨h1, h2⟩ := wf.freeRange x h
  (lookup_none_iff_free n wf x h1 h2).mpr h

def live (n : LNode) (x : Seid) : Prop := (n.lookup x).isSome

/-- every other value — zero, beyond the table, ≥ 2^63, released — is a miss: the complement of `live`
    is exactly "zero, or out of range, or on the free list" -/
theorem miss_iff (n : LNode) (wf : TableWF n) (x : Seid) :
    n.lookup x = none ↔ (x = 0 ∨ x.toNat > n.sess.length ∨ x ∈ n.free) := by
  by_cases h0 : x = 0
  · simp [h0]
  by_cases hb : x.toNat > n.sess.length
  · simp [hb, lookup_beyond n x hb]
  · rw [lookup_none_iff_free n wf x (toNat_pos_of_ne_zero x h0) (by omega)]
    exact ⟨fun h => .inr (.inr h), fun h => h.elim (absurd · h0) (·.elim (absurd · hb) id)⟩

theorem toNat_ofNat_small {a : Nat} (h : a < 2 ^ 64) : (BitVec.ofNat 64 a).toNat = a := by
  rw [BitVec.toNat_ofNat, Nat.mod_eq_of_lt h]

theorem ofNat_inj_small (a b : Nat) (ha : a < 2 ^ 64) (hb : b < 2 ^ 64) (h : BitVec.ofNat 64 a = BitVec.ofNat 64 b) :
    a = b := by
  have := congrArg BitVec.toNat h
  rwa [toNat_ofNat_small ha, toNat_ofNat_small hb] at this

/-- The converse of `lookup_none_iff_free` and `lookup_some_id`: well-formedness read through `lookup`, slot `i` being what
    the SEID `i + 1` resolves to.  An operation that has a lookup equation keeps the table well-formed by this. -/
theorem wf_of_lookup (n : LNode) (hnd : n.free.Nodup) (hr : ∀ f ∈ n.free, 1 ≤ f.toNat ∧ f.toNat ≤ n.sess.length)
    (hsmall : n.sess.length < 2 ^ 64)
    (hfree : ∀ x, 1 ≤ x.toNat → x.toNat ≤ n.sess.length → (n.lookup x = none ↔ x ∈ n.free))
    (hid : ∀ x s, n.lookup x = some s → s.localID = x) : TableWF n := by
  have key : ∀ i, i < n.sess.length →
      (BitVec.ofNat 64 (i + 1)).toNat = i + 1 ∧ n.lookup (BitVec.ofNat 64 (i + 1)) = slot n i := by
    intro i hi
    have e := toNat_ofNat_small (a := i + 1) (by omega)
    refine ⟨e, ?_⟩
    rw [lookup_eq_slot n _ (ne_zero_of_toNat_pos (by omega)) (by omega), e, Nat.add_sub_cancel]
  refine ⟨hnd, hr, ?_, ?_, hsmall⟩
  · intro i hi
    obtain ⟨e, hl⟩ := key i hi
    rw [← hl]
    exact hfree _ (by omega) (by omega)
  · intro i s hs
    -- a slot beyond the table reads as empty
    have hi : i < n.sess.length := by
      apply Nat.lt_of_not_le; intro hge
      simp [slot, List.getD_eq_getElem?_getD, List.getElem?_eq_none hge] at hs
    obtain ⟨e, hl⟩ := key i hi
    rw [← hl] at hs
    rw [hid _ s hs, e]

/-! ### writing one slot

`release`, `setSess` and the re-use branch of `newSess` all write the slot of one SEID in range and adjust the free list:
what resolves afterwards needs no well-formedness; well-formedness needs the free list to match the slot. -/

theorem slot_set_eq (l : List (Option Sess)) (f : List Seid) (i : Nat) (v : Option Sess) (h : i < l.length) :
    slot { sess := l.set i v, free := f } i = v := by
  simp [slot, List.getD_eq_getElem?_getD, h]

theorem slot_set_ne (l : List (Option Sess)) (f f' : List Seid) (i j : Nat) (v : Option Sess) (h : i ≠ j) :
    slot { sess := l.set i v, free := f } j = slot { sess := l, free := f' } j := by
  simp [slot, List.getD_eq_getElem?_getD, h]

theorem lookup_set_other (n : LNode) (f : List Seid) (i : Nat) (v : Option Sess) (y : Seid)
    (hne : y.toNat - 1 ≠ i ∨ y = 0) :
    ({ sess := n.sess.set i v, free := f } : LNode).lookup y = n.lookup y := by
  by_cases hy0 : y = 0
  · subst hy0; simp
  by_cases hb : y.toNat > n.sess.length
  · rw [lookup_beyond n y hb, lookup_beyond]; simpa using hb
  · have hle : y.toNat ≤ n.sess.length := by omega
    rw [lookup_eq_slot n y hy0 hle, lookup_eq_slot _ y hy0 (by simpa using hle)]
    rcases hne with hne | hne
    · exact slot_set_ne _ _ n.free _ _ _ (Ne.symm hne)
    · exact absurd hne hy0

theorem pred_toNat_ne {x y : Seid} (hy : y ≠ 0) (hx : x ≠ 0) (h : y ≠ x) : y.toNat - 1 ≠ x.toNat - 1 := by
  have := toNat_pos_of_ne_zero x hx
  have := toNat_pos_of_ne_zero y hy
  have := BitVec.toNat_ne.mp h
  omega

theorem lookup_set (n : LNode) (x : Seid) (h1 : 1 ≤ x.toNat) (h2 : x.toNat ≤ n.sess.length) (v : Option Sess) (f : List Seid)
    (y : Seid) : ({ sess := n.sess.set (x.toNat - 1) v, free := f } : LNode).lookup y = if y = x then v else n.lookup y := by
  have hx0 := ne_zero_of_toNat_pos h1
  split
  · rename_i hy
    rw [hy, lookup_eq_slot _ x hx0 (by simpa using h2)]
    exact slot_set_eq _ _ _ _ (by omega)
  · rename_i hy
    apply lookup_set_other
    by_cases hy0 : y = 0
    · exact Or.inr hy0
    · exact Or.inl (pred_toNat_ne hy0 hx0 hy)

theorem wf_set (n : LNode) (wf : TableWF n) (x : Seid) (h1 : 1 ≤ x.toNat) (h2 : x.toNat ≤ n.sess.length)
    (v : Option Sess) (f : List Seid) (hnd : f.Nodup) (hx : x ∈ f ↔ v = none) (hf : ∀ z, z ≠ x → (z ∈ f ↔ z ∈ n.free))
    (hv : ∀ s, v = some s → s.localID = x) :
    TableWF { sess := n.sess.set (x.toNat - 1) v, free := f } := by
  apply wf_of_lookup _ hnd
  · intro z hz
    by_cases hzx : z = x
    · rw [hzx]; simpa using And.intro h1 h2
    · simpa using wf.freeRange z ((hf z hzx).mp hz)
  · simpa using wf.small
  · intro y hy1 hy2
    rw [lookup_set n x h1 h2]
    split
    · rename_i hyx; rw [hyx, hx]
    · rename_i hyx; rw [hf y hyx]
      exact lookup_none_iff_free n wf y hy1 (by simpa using hy2)
  · intro y s hs
    rw [lookup_set n x h1 h2] at hs
    split at hs
    · rename_i hyx; rw [hyx]; exact hv s hs
    · exact lookup_some_id n wf y s hs

/-! ### release -/

theorem release_wf (n : LNode) (wf : TableWF n) (x : Seid) (s : Sess) (h : n.lookup x = some s) :
    TableWF (release n x) := by
  obtain ⟨h1, h2⟩ := lookup_some_range n x s h
  have hnf : x ∉ n.free := fun hc => by rw [lookup_free n wf x hc] at h; cases h
  apply wf_set n wf x h1 h2 none _ (nodup_concat.mpr ⟨hnf, wf.freeNodup⟩)
  · simp
  · intro z hz; simp [hz]
  · intro _ hc; cases hc

/-- release removes exactly one entry of the abstract map -/
theorem release_lookup (n : LNode) (wf : TableWF n) (x : Seid) (s : Sess) (h : n.lookup x = some s) :
    (release n x).lookup x = none ∧ ∀ y, y ≠ x → (release n x).lookup y = n.lookup y := by
  obtain ⟨h1, h2⟩ := lookup_some_range n x s h
  exact ⟨by rw [release, lookup_set n x h1 h2, if_pos rfl], fun y hy => by rw [release, lookup_set n x h1 h2, if_neg hy]⟩

/-! ### rewriting a live session (`setSess`) -/

theorem lookup_setSess (n : LNode) (x : Seid) (s0 s' : Sess) (hl : n.lookup x = some s0) (hid : s'.localID = x) (y : Seid) :
    (n.setSess s').lookup y = if y = x then some s' else n.lookup y := by
  obtain ⟨h1, h2⟩ := lookup_some_range n x s0 hl
  rw [LNode.setSess, hid, lookup_set n x h1 h2]

theorem setSess_wf (n : LNode) (wf : TableWF n) (x : Seid) (s0 s' : Sess) (hl : n.lookup x = some s0)
    (hid : s'.localID = x) : TableWF (n.setSess s') := by
  obtain ⟨h1, h2⟩ := lookup_some_range n x s0 hl
  have hnf : x ∉ n.free := fun hc => by rw [lookup_free n wf x hc] at hl; cases hl
  rw [LNode.setSess, hid]
  apply wf_set n wf x h1 h2 _ _ wf.freeNodup
  · simp [hnf]
  · intro _ _; rfl
  · intro s hs; cases hs; exact hid

/-! ### allocation -/

theorem lookup_append (n : LNode) (v : Option Sess) (y : Seid) :
    ({ n with sess := n.sess ++ [v] } : LNode).lookup y = if y.toNat = n.sess.length + 1 then v else n.lookup y := by
  unfold LNode.lookup
  by_cases hy0 : y = 0#64
  · simp [hy0]
  · have hp := toNat_pos_of_ne_zero y hy0
    simp only [beq_iff_eq, List.length_append, List.length_singleton, List.getD_eq_getElem?_getD]
    by_cases h1 : y.toNat = n.sess.length + 1
    · simp [h1, hy0]
    · by_cases h2 : y.toNat > n.sess.length
      · have : y.toNat > n.sess.length + 1 := by omega
        simp [h1, h2, this, hy0]
      · have h3 : ¬ y.toNat > n.sess.length + 1 := by omega
        have h4 : y.toNat - 1 < n.sess.length := by omega
        simp [h1, h2, h3, hy0, List.getElem?_append_left h4]

/-- `newSess` appends only when the free list is empty; well-formedness does not depend on that -/
theorem wf_append (n : LNode) (wf : TableWF n) (hroom : n.sess.length + 1 < 2 ^ 64) (s : Sess)
    (hs : s.localID.toNat = n.sess.length + 1) : TableWF { n with sess := n.sess ++ [some s] } := by
  apply wf_of_lookup { n with sess := n.sess ++ [some s] } wf.freeNodup
  · intro z hz
    have := wf.freeRange z hz
    simp only [List.length_append, List.length_singleton]; omega
  · simpa using hroom
  · intro y hy1 hy2
    simp only [List.length_append, List.length_singleton] at hy2
    rw [lookup_append]
    split
    · -- the new SEID resolves, and is beyond what the free list may hold
      rename_i hy
      have hnf : y ∉ n.free := fun hc => by have := (wf.freeRange y hc).2; omega
      simp [hnf]
    · exact lookup_none_iff_free n wf y hy1 (by omega)
  · intro y s' hs'
    rw [lookup_append] at hs'
    split at hs'
    · rename_i hy
      cases hs'
      exact BitVec.eq_of_toNat_eq (hs.trans hy.symm)
    · exact lookup_some_id n wf y s' hs'

theorem newSess_spec (n : LNode) (wf : TableWF n) (h : Nat) (cp : Seid) (hroom : n.sess.length + 1 < 2 ^ 64) :
    TableWF (n.newSess h cp).1 ∧ (n.newSess h cp).2.localID ≠ 0 ∧
    n.lookup (n.newSess h cp).2.localID = none ∧
    (n.newSess h cp).1.lookup (n.newSess h cp).2.localID = some (n.newSess h cp).2 ∧
    (n.newSess h cp).2.remoteID = cp ∧
    ∀ y, y ≠ (n.newSess h cp).2.localID → (n.newSess h cp).1.lookup y = n.lookup y := by
  cases hl : n.free.getLast? with
  | some id =>
    -- re-use: the slot of the last freed id is written, the id leaves the free list
    obtain ⟨ys, hys⟩ := List.getLast?_eq_some_iff.mp hl
    obtain ⟨h1, h2⟩ := wf.freeRange id (List.mem_of_getLast? hl)
    obtain ⟨hnotin, hnd⟩ := nodup_concat.mp (hys ▸ wf.freeNodup)
    simp only [LNode.newSess, hl]
    rw [hys, List.dropLast_concat]
    refine ⟨?_, ne_zero_of_toNat_pos h1, lookup_free n wf id (List.mem_of_getLast? hl), ?_, trivial, ?_⟩
    · apply wf_set n wf id h1 h2 _ _ hnd
      · simp [hnotin]
      · intro z hz; simp [hys, hz]
      · intro s hs; cases hs; rfl
    · rw [lookup_set n id h1 h2, if_pos rfl]
    · intro y hy; rw [lookup_set n id h1 h2, if_neg hy]
  | none =>
    -- append: the fresh SEID is `length + 1`
    simp only [LNode.newSess, hl]
    have hlen := toNat_ofNat_small hroom
    refine ⟨wf_append n wf hroom _ hlen, ne_zero_of_toNat_pos (by rw [hlen]; omega),
      lookup_beyond _ _ (by rw [hlen]; omega), ?_, trivial, ?_⟩
    · rw [lookup_append, if_pos hlen]
    · intro y hy
      rw [lookup_append, if_neg]
      intro hc; exact hy (BitVec.eq_of_toNat_eq (by rw [hlen, hc]))

/-! ### every reachable table: induction over all operation sequences -/

inductive TOp
  | new (cp : Seid)        -- establishment
  | del (x : Seid)         -- deletion / re-association / SEID-0 response, each through `DeleteSess`
deriving Repr

def applyOp (n : LNode) : TOp → LNode
  | .new cp => (n.newSess 0 cp).1
  | .del x => match n.lookup x with
    | some _ => release n x
    | none => n            -- "session context not found": no side effect

theorem newSess_length (n : LNode) (h : Nat) (cp : Seid) :
    (n.newSess h cp).1.sess.length ≤ n.sess.length + 1 := by
  unfold LNode.newSess
  cases n.free.getLast? <;> simp

theorem applyDel_lookup (n : LNode) (x z : Seid) :
    (applyOp n (.del x)).lookup z = if z = x then none else n.lookup z := by
  cases hl : n.lookup x with
  | none =>
    simp only [applyOp, hl]
    split
    · rename_i hz; rw [hz]; exact hl
    · rfl
  | some s =>
    obtain ⟨h1, h2⟩ := lookup_some_range n x s hl
    simp only [applyOp, hl]
    rw [release, lookup_set n x h1 h2]

theorem applyDel_wf (n : LNode) (wf : TableWF n) (x : Seid) : TableWF (applyOp n (.del x)) := by
  cases hl : n.lookup x with
  | none => simp only [applyOp, hl]; exact wf
  | some s => simp only [applyOp, hl]; exact release_wf n wf x s hl

theorem applyDel_length (n : LNode) (x : Seid) : (applyOp n (.del x)).sess.length = n.sess.length := by
  cases hl : n.lookup x <;> simp [applyOp, hl, release]

theorem run_wf (ops : List TOp) (n : LNode) (wf : TableWF n) (hroom : n.sess.length + ops.length + 1 < 2 ^ 64) :
    TableWF (ops.foldl applyOp n) ∧ (ops.foldl applyOp n).sess.length ≤ n.sess.length + ops.length := by
  induction ops generalizing n with
  | nil => exact ⟨wf, Nat.le_refl _⟩
  | cons op ops ih =>
    simp only [List.foldl_cons, List.length_cons] at hroom ⊢
    have hstep : TableWF (applyOp n op) ∧ (applyOp n op).sess.length ≤ n.sess.length + 1 := by
      cases op with
      | new cp => exact ⟨(newSess_spec n wf 0 cp (by omega)).1, newSess_length n 0 cp⟩
      | del x => exact ⟨applyDel_wf n wf x, by rw [applyDel_length]; omega⟩
    have := ih (applyOp n op) hstep.1 (by omega)
    exact ⟨this.1, by omega⟩

/-- all histories starting from the empty table (fewer than 2^63 of them, i.e. every physically possible one) -/
theorem reachable_wf (ops : List TOp) (h : ops.length + 1 < 2 ^ 64) : TableWF (ops.foldl applyOp {}) :=
  (run_wf ops {} wf_empty (by simpa using h)).1

/-- … and in every reachable table a lookup by any of the 2^64 values is a hit only for the session that
    carries this SEID, and a miss exactly for zero / out-of-range / released values -/
theorem reachable_lookup_exact (ops : List TOp) (h : ops.length + 1 < 2 ^ 64) (x : Seid) :
    let n := ops.foldl applyOp {}
    (∀ s, n.lookup x = some s → s.localID = x) ∧
    (n.lookup x = none ↔ (x = 0 ∨ x.toNat > n.sess.length ∨ x ∈ n.free)) :=
  ⟨fun s hs => lookup_some_id _ (reachable_wf ops h) x s hs, miss_iff _ (reachable_wf ops h) x⟩

/-! ### non-vacuity and the repaired defect -/

/-- three sessions, the middle one released and its SEID re-issued -/
example :
    let n := [TOp.new 7, .new 7, .new 9, .del 2, .new 5].foldl applyOp {}
    (n.lookup 2).map (·.remoteID) = some 5#64 ∧ (n.lookup 1).map (·.remoteID) = some 7#64 ∧
    n.lookup 0 = none ∧ n.lookup 4 = none ∧ n.lookup (BitVec.ofNat 64 (2^64 - 1)) = none ∧ n.free = [] := by
  decide

/-- The code before the `fix:` commit computed `i := int(lSeid) - 1` and tested `i >= len(n.sess)` on the
    signed value: for SEIDs in [2^63+1, 2^64-1] the index is negative, passes the test and faults. -/
def oldIndexPasses (len : Nat) (x : Seid) : Bool := decide (slotIndex x < (len : Int))
example : oldIndexPasses 0 (BitVec.ofNat 64 (2^64 - 1)) = true ∧ slotIndex (BitVec.ofNat 64 (2^64 - 1)) = -2 := by decide

end UpfVerif.C04
