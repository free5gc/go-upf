/-
C16 — SDF flow descriptions are translated to the filter they denote.

`parse_render`: for EVERY rule of the supported grammar (every protocol spelling incl. leading zeros and `ip`, hosts,
prefixes 0..32, `any` / `assigned`, port lists of any length with single ports and ranges, each numeral in any
decimal spelling) and EVERY spacing (arbitrary non-empty runs of Go white space between tokens, optional leading and
trailing run), the model of `ParseFlowDesc` returns exactly the filter the rule denotes.
`parse_total`: every string is either rejected or parsed — no fault (the model is a total function over all strings;
the Go side is run on arbitrary byte strings by the correspondence stream).
`pack_unpack`: the port words `lo << 16 | hi` decode back to the ranges.
`packed_decodes`: for every rule, spelling and spacing, the attribute list `newFlowDesc` hands to the data plane, read
by the independent reader of the gtp5g rule format, is the filter the rule denotes — with source and destination
(addresses, masks and port lists) exchanged for uplink PDRs.
-/
import UpfVerif.Model.FlowDesc
import UpfVerif.Lemmas.FlowDesc
import UpfVerif.Spec.IPFilterRule
import UpfVerif.Props.C02
import UpfVerif.Lemmas.List

namespace UpfVerif.C16
open UpfVerif.FlowDesc UpfVerif.Spec.IPFilter

/-! ### canonical numerals are digit strings (the 33 prefix lengths by evaluation) -/

/-- the digits `decStr` spells: those of `n`, without a leading zero -/
def decDigits (n : Nat) : List (Fin 10) :=
  let d (k : Nat) : Fin 10 := ⟨k % 10, Nat.mod_lt _ (by decide)⟩
  if n < 10 then [d n] else if n < 100 then [d (n / 10), d n] else [d (n / 100), d (n / 10), d n]

theorem decStr_eq (n : Nat) : decStr n = digitsStr (decDigits n) := by
  unfold decStr decDigits
  split
  · rfl
  · split <;> rfl

theorem decDigits_ne (n : Nat) : decDigits n ≠ [] := by
  unfold decDigits
  split
  · exact List.cons_ne_nil _ _
  · split <;> exact List.cons_ne_nil _ _

theorem digitsVal_decDigits (n : Nat) (h : n < 1000) : digitsVal (decDigits n) = n := by
  unfold decDigits digitsVal
  split
  next h1 =>
    show 0 * 10 + n % 10 = n
    rw [Nat.zero_mul, Nat.zero_add, Nat.mod_eq_of_lt h1]
  next =>
    split
    next h2 =>
      show (0 * 10 + n / 10 % 10) * 10 + n % 10 = n
      rw [Nat.zero_mul, Nat.zero_add, Nat.mod_eq_of_lt (Nat.div_lt_of_lt_mul h2), Nat.div_add_mod']
    next =>
      show ((0 * 10 + n / 100 % 10) * 10 + n / 10 % 10) * 10 + n % 10 = n
      rw [Nat.zero_mul, Nat.zero_add, Nat.mod_eq_of_lt (Nat.div_lt_of_lt_mul h), ← Nat.div_div_eq_div_mul n 10 10,
        Nat.div_add_mod', Nat.div_add_mod']

theorem decDigits_no_leading_zero (n : Nat) (h : n < 1000) :
    ((decDigits n).length > 1 && (decDigits n).head? == some 0) = false := by
  unfold decDigits
  split
  · rfl
  · -- the leading digit is `n / 10`, resp. `n / 100`, of an `n` that is at least 10, resp. 100
    split
    · simp [Fin.ext_iff]
      omega
    · simp [Fin.ext_iff]
      omega

theorem all_decStr (P : Char → Prop) (hP : ∀ d : Fin 10, P (digitChar d)) (n : Nat) : ∀ c ∈ decStr n, P c := by
  rw [decStr_eq]
  exact all_digitsStr P hP _

theorem decStr_noChar (n : Nat) {sep : Char} (h : isDigit sep = false) : noChar sep (decStr n) :=
  all_decStr _ (digitChar_bne h) n

theorem octet_parse (o : Fin 256) : parseOctet (decStr o) = some o.val := by
  rw [decStr_eq, parseOctet_digits _ (decDigits_ne _), decDigits_no_leading_zero _ (by omega), digitsVal_decDigits _ (by omega)]
  simp only [Bool.false_eq_true, if_false]
  exact if_pos (by omega)

theorem prefix_parse : ∀ l : Fin 33, parsePrefixLen (decStr l) = some l.val := by decide +kernel

/-! ### addresses -/

theorem all_ipStr (P : Char → Prop) (hd : ∀ d : Fin 10, P (digitChar d)) (hdot : P '.') (a b c d : Fin 256) :
    ∀ ch ∈ ipStr a b c d, P ch := by
  simp only [ipStr, joinSep, List.forall_mem_append, List.forall_mem_cons]
  exact ⟨all_decStr P hd a, hdot, all_decStr P hd b, hdot, all_decStr P hd c, hdot, all_decStr P hd d⟩

theorem ipStr_noslash (a b c d : Fin 256) : noChar '/' (ipStr a b c d) :=
  all_ipStr (fun ch => (ch == '/') = false) (digitChar_bne rfl) rfl a b c d

theorem ipStr_class (a b c d : Fin 256) : addrClass (ipStr a b c d) = .v4 := by
  simp only [ipStr, joinSep]
  exact addrClass_prefix _ _ (decStr_noChar a rfl) (decStr_noChar a rfl) (decStr_noChar a rfl)

theorem ipStr_parse (a b c d : Fin 256) : parseIPv4 (ipStr a b c d) = some [a.val, b.val, c.val, d.val] := by
  unfold parseIPv4 ipStr
  rw [splitOn_joinSep '.' _ (List.cons_ne_nil _ _) (by
    simp only [List.forall_mem_cons]
    exact ⟨decStr_noChar a rfl, decStr_noChar b rfl, decStr_noChar c rfl, decStr_noChar d rfl, nofun⟩)]
  simp only [octet_parse]

theorem not_keyword {s : Str} (h : '.' ∈ s) : (s == kwAny || s == kwAssigned) = false := by
  have hkw : '.' ∉ kwAny ∧ '.' ∉ kwAssigned := by decide
  rw [Bool.or_eq_false_iff, beq_eq_false_iff_ne, beq_eq_false_iff_ne]
  exact ⟨ne_of_mem_of_not_mem' h hkw.1, ne_of_mem_of_not_mem' h hkw.2⟩

theorem dot_mem_ipStr (a b c d : Fin 256) : '.' ∈ ipStr a b c d := by
  simp [ipStr, joinSep]

theorem addr_parse (x : Addr) : parseIPNet x.str = some x.denote := by
  cases x with
  | any => decide
  | assigned => decide
  | host a b c d =>
    simp only [Addr.str, parseIPNet, Addr.denote, not_keyword (dot_mem_ipStr a b c d), Bool.false_eq_true, if_false,
      cutSlash_noslash _ _ (ipStr_noslash a b c d), ipStr_class, ipStr_parse]
    rfl
  | net a b c d l =>
    have hdot : '.' ∈ ipStr a b c d ++ '/' :: decStr l := List.mem_append_left _ (dot_mem_ipStr a b c d)
    simp only [Addr.str, parseIPNet, Addr.denote, not_keyword hdot, Bool.false_eq_true, if_false,
      cutSlash_slash _ _ [] (ipStr_noslash a b c d), List.reverse_nil, List.nil_append, ipStr_class, ipStr_parse,
      prefix_parse l]
    rfl

/-! ### port lists -/

theorem item_noComma (p : PortItem) : noChar ',' p.str := by
  cases p with
  | one n => exact noChar_digitsStr rfl n.ds
  | range lo hi =>
    simp only [PortItem.str, noChar, List.forall_mem_append, List.forall_mem_cons]
    exact ⟨noChar_digitsStr rfl lo.ds, rfl, noChar_digitsStr rfl hi.ds⟩

theorem numeral_parse (n : Numeral) (bits : Nat) (h : n.val < 2 ^ bits) : parseUint n.str bits = some n.val :=
  (parseUint_digits n.ds n.ne bits).trans (if_pos h)

def parseItem (item : Str) : Option (List Nat) :=
  match cutDash item [] with
  | (a, none) => (parseUint a 16).map fun v => [v]
  | (a, some b) =>
    match parseUint a 16, parseUint b 16 with
    | some x, some y => some [x, y]
    | _, _ => none

theorem item_parse (p : PortItem) (h : p.WF) : parseItem p.str = some p.denote := by
  cases p with
  | one n =>
    simp only [parseItem, PortItem.str, PortItem.denote]
    rw [cutDash_nodash n.str [] (noChar_digitsStr rfl n.ds)]
    simp [numeral_parse n 16 h]
  | range lo hi =>
    simp only [parseItem, PortItem.str, PortItem.denote]
    rw [cutDash_dash lo.str hi.str [] (noChar_digitsStr rfl lo.ds)]
    simp [numeral_parse lo 16 h.1, numeral_parse hi 16 h.2]

theorem ports_parse (ps : List PortItem) (hne : ps ≠ []) (h : ∀ p ∈ ps, p.WF) :
    parsePorts (portsStr ps) = some (ps.map PortItem.denote) := by
  show (splitOn ',' (portsStr ps) []).mapM parseItem = _
  rw [portsStr, splitOn_joinSep ',' _ (by simpa using hne) (List.forall_mem_map.mpr fun p _ => item_noComma p)]
  exact mapM_map_some parseItem PortItem.str PortItem.denote ps (fun p hp => item_parse p (h p hp))

theorem to_is_not_ports : parsePorts kwTo = none := by decide

/-! ### the rule -/

theorem numeral_not_ip (n : Numeral) : n.str ≠ kwIp := by
  intro hc
  have hi : 'i' ∈ digitsStr n.ds := by rw [show digitsStr n.ds = kwIp from hc]; decide
  exact absurd (all_digitsStr (isDigit · = true) isDigit_digitChar n.ds 'i' hi) (by decide)

theorem proto_parse (r : Rule) (hp : ∀ n, r.proto = some n → n.val < 256) : parseProto r.protoTok = some r.protoVal := by
  unfold parseProto Rule.protoTok Rule.protoVal
  cases hpr : r.proto with
  | none => simp
  | some n =>
    have : (n.str == kwIp) = false := by simpa using numeral_not_ip n
    simp only [this, Bool.false_eq_true, if_false]
    exact numeral_parse n 8 (hp n hpr)

theorem dir_valid (r : Rule) : validDir r.dirTok = true := by
  unfold validDir Rule.dirTok; cases r.dirIn <;> decide

theorem tailPorts_opt (ps : List PortItem) (h : ∀ p ∈ ps, p.WF) :
    tailPorts (if ps.isEmpty then [] else [portsStr ps]) = ps.map PortItem.denote := by
  cases ps with
  | nil => rfl
  | cons p ps =>
    simp only [List.isEmpty_cons, Bool.false_eq_true, if_false, tailPorts, ports_parse (p :: ps) (List.cons_ne_nil _ _) h,
      Option.getD_some]

theorem tail_parse (sports dports : List PortItem) (dst : Addr) (hs : ∀ p ∈ sports, p.WF) (hd : ∀ p ∈ dports, p.WF) :
    parseTail ((if sports.isEmpty then [] else [portsStr sports]) ++ [kwTo, dst.str] ++
               (if dports.isEmpty then [] else [portsStr dports])) =
      some (sports.map PortItem.denote, dst.denote, dports.map PortItem.denote) := by
  cases sports with
  | nil =>
    -- no source ports: the token tried as a port list is `to`, which is none
    simp only [List.isEmpty_nil, if_true, List.nil_append, List.cons_append, parseTail, takePorts, to_is_not_ports,
      beq_self_eq_true, addr_parse dst, tailPorts_opt dports hd, List.map_nil]
  | cons p ps =>
    simp only [List.isEmpty_cons, Bool.false_eq_true, if_false, List.nil_append, List.cons_append, parseTail, takePorts,
      ports_parse (p :: ps) (List.cons_ne_nil _ _) hs, beq_self_eq_true, if_true, addr_parse dst, tailPorts_opt dports hd]

theorem parseTokens_rule (r : Rule) (wf : r.WF) : parseTokens r.tokens = some r.denote := by
  obtain ⟨hp, hs, hd⟩ := wf
  have htail := tail_parse r.sports r.dports r.dst hs hd
  unfold Rule.tokens
  -- the token list and the list `tail_parse` speaks of, to the same bracketing: the five leading tokens, then the tail
  simp only [List.cons_append, List.nil_append, List.append_assoc] at htail ⊢
  simp only [parseTokens, beq_self_eq_true, dir_valid r, Bool.and_self, if_true, proto_parse r hp, addr_parse r.src]
  rw [htail]
  rfl

/-! ### spacing -/

/-- separators: white space only, and non-empty between two tokens (the run after the last token may be empty) -/
def WFSeps : List Str → Prop
  | [] => True
  | [sp] => allSpace sp
  | sp :: rest => allSpace sp ∧ sp ≠ [] ∧ WFSeps rest

theorem fieldsAux_zip : ∀ (toks seps : List Str), toks.length = seps.length → (∀ t ∈ toks, t ≠ [] ∧ noSpace t) →
    WFSeps seps → fieldsAux (joinToks (toks.zip seps)) [] = toks
  | [], _, _, _, _ => rfl
  | [t], [sp], _, ht, hs => by
    have ⟨hne, hns⟩ := ht t (List.mem_singleton_self t)
    simpa [joinToks, fieldsAux] using fieldsAux_token_spaces t sp [] hne hns hs (fun _ => rfl)
  | t :: t2 :: toks, sp :: sp2 :: seps, hl, ht, ⟨h1, h2, h3⟩ => by
    obtain ⟨⟨hne, hns⟩, hrest⟩ := List.forall_mem_cons.mp ht
    have ih := fieldsAux_zip (t2 :: toks) (sp2 :: seps) (Nat.succ.inj hl) hrest h3
    simp only [List.zip_cons_cons, joinToks] at ih ⊢
    -- another token follows, and then the run of white space is not empty (`h2`)
    rw [fieldsAux_token_spaces t sp _ hne hns h1 (fun h => absurd h h2), ih]

/-- two strings free of white space, joined by a character that is not white space, make one token -/
theorem noSpace_join {a b : Str} {c : Char} (ha : noSpace a) (hc : isSpace c = false) (hb : noSpace b) :
    a ++ c :: b ≠ [] ∧ noSpace (a ++ c :: b) :=
  ⟨List.append_ne_nil_of_right_ne_nil _ (List.cons_ne_nil _ _),
    List.forall_mem_append.mpr ⟨ha, List.forall_mem_cons.mpr ⟨hc, hb⟩⟩⟩

theorem noSpace_numeral (n : Numeral) : n.str ≠ [] ∧ noSpace n.str :=
  ⟨digitsStr_ne_nil n.ne, all_digitsStr _ isSpace_digitChar n.ds⟩

theorem noSpace_ipStr (a b c d : Fin 256) : ipStr a b c d ≠ [] ∧ noSpace (ipStr a b c d) :=
  ⟨List.ne_nil_of_mem (dot_mem_ipStr a b c d), all_ipStr (isSpace · = false) isSpace_digitChar rfl a b c d⟩

theorem noSpace_addr (x : Addr) : x.str ≠ [] ∧ noSpace x.str := by
  cases x with
  | any => decide
  | assigned => decide
  | host a b c d => exact noSpace_ipStr a b c d
  | net a b c d l => exact noSpace_join (noSpace_ipStr a b c d).2 rfl (all_decStr _ isSpace_digitChar l)

theorem noSpace_item (p : PortItem) : p.str ≠ [] ∧ noSpace p.str := by
  cases p with
  | one n => exact noSpace_numeral n
  | range lo hi => exact noSpace_join (noSpace_numeral lo).2 rfl (noSpace_numeral hi).2

theorem noSpace_joinSep (sep : Char) (hsep : isSpace sep = false) : ∀ (items : List Str), items ≠ [] →
    (∀ t ∈ items, t ≠ [] ∧ noSpace t) → joinSep sep items ≠ [] ∧ noSpace (joinSep sep items)
  | [], h, _ => absurd rfl h
  | [t], _, ht => ht t (List.mem_singleton_self t)
  | t :: t2 :: rest, _, ht => by
    obtain ⟨ht, hrest⟩ := List.forall_mem_cons.mp ht
    exact noSpace_join ht.2 hsep (noSpace_joinSep sep hsep (t2 :: rest) (List.cons_ne_nil _ _) hrest).2

theorem noSpace_ports (ps : List PortItem) :
    ∀ t ∈ (if ps.isEmpty then [] else [portsStr ps]), t ≠ [] ∧ noSpace t := by
  cases ps with
  | nil => nofun
  | cons p ps =>
    simp only [List.isEmpty_cons, Bool.false_eq_true, if_false, List.forall_mem_singleton]
    exact noSpace_joinSep ',' rfl _ (List.cons_ne_nil _ _) (List.forall_mem_map.mpr fun p _ => noSpace_item p)

theorem tokens_clean (r : Rule) : ∀ t ∈ r.tokens, t ≠ [] ∧ noSpace t := by
  have hdir : r.dirTok ≠ [] ∧ noSpace r.dirTok := by
    unfold Rule.dirTok
    cases r.dirIn <;> decide
  have hproto : r.protoTok ≠ [] ∧ noSpace r.protoTok := by
    unfold Rule.protoTok
    cases r.proto with
    | none => decide
    | some n => exact noSpace_numeral n
  have upToSrc : ∀ t ∈ [kwPermit, r.dirTok, r.protoTok, kwFrom, r.src.str], t ≠ [] ∧ noSpace t := by
    simp only [List.forall_mem_cons]
    exact ⟨by decide, hdir, hproto, by decide, noSpace_addr r.src, nofun⟩
  have toDst : ∀ t ∈ [kwTo, r.dst.str], t ≠ [] ∧ noSpace t := by
    simp only [List.forall_mem_cons]
    exact ⟨by decide, noSpace_addr r.dst, nofun⟩
  -- `Rule.tokens` is these two segments, each followed by its optional port list
  simp only [Rule.tokens, List.forall_mem_append]
  exact ⟨⟨⟨upToSrc, noSpace_ports r.sports⟩, toDst⟩, noSpace_ports r.dports⟩

/-- **C16, the grammar half**: every rule, in every spelling of its numerals and with every spacing, is translated
    to exactly the filter it denotes -/
theorem parse_render (r : Rule) (wf : r.WF) (lead : Str) (seps : List Str) (hlead : allSpace lead)
    (hlen : r.tokens.length = seps.length) (hseps : WFSeps seps) :
    parseFlowDesc (lead ++ joinToks (r.tokens.zip seps)) = some r.denote := by
  rw [parseFlowDesc, fields, fieldsAux_spaces lead _ hlead, fieldsAux_zip _ _ hlen (tokens_clean r) hseps]
  exact parseTokens_rule r wf

/-- every string is rejected or translated: the parser has no faulting outcome (it is a total function) -/
theorem parse_total (s : Str) : parseFlowDesc s = none ∨ ∃ f, parseFlowDesc s = some f := by
  cases parseFlowDesc s with
  | none => exact Or.inl rfl
  | some f => exact Or.inr ⟨f, rfl⟩

/-- what a packed word means: (low port, high port) -/
def portPair : List Nat → Nat × Nat
  | [a] => (a, a)
  | [a, b] => (a, b)
  | _ => (0, 0)

/-- port ranges packed as `lo << 16 | hi` words decode back to the same ranges (a single port is its own range) -/
theorem pack_unpack (ps : List (List Nat))
    (h : ∀ p ∈ ps, (∃ a, p = [a] ∧ a < 65536) ∨ (∃ a b, p = [a, b] ∧ a < 65536 ∧ b < 65536)) :
    (portWords ps).map (fun w => (w / 65536, w % 65536)) = ps.map portPair := by
  rw [portWords, List.map_map]
  exact List.map_congr_left fun p hp => (C02.portWord_ok h hp).2

/-- **C16, the packing half**: the packed form handed to the data plane decodes back to the filter the rule denotes,
    source and destination exchanged for uplink PDRs -/
theorem packed_decodes (r : Rule) (wf : r.WF) (lead : Str) (seps : List Str) (hlead : allSpace lead)
    (hlen : r.tokens.length = seps.length) (hseps : WFSeps seps) (uplink : Bool) :
    (parseFlowDesc (lead ++ joinToks (r.tokens.zip seps))).map
        (fun f => Gtp5gRead.readFlow (Xlate.flowDescAttrs f uplink)) =
      some (Rules.expectFlow r.denote uplink) := by
  have hp := parse_render r wf lead seps hlead hlen hseps
  -- what the parser returns has its ports and its protocol number in range
  obtain ⟨hs, hd, hpr⟩ := C02.parseFlowDesc_ranges _ _ hp
  rw [hp]
  exact congrArg some (C02.readFlow_flowDescAttrs _ uplink hs hd hpr)

/-- what "exchanged" means, spelled out on the reader's view: the uplink view is the downlink view with the two sides swapped -/
theorem uplink_is_swap (f : FlowDesc) :
    (Rules.expectFlow f true).srcIp = (Rules.expectFlow f false).dstIp ∧
    (Rules.expectFlow f true).dstIp = (Rules.expectFlow f false).srcIp ∧
    (Rules.expectFlow f true).srcMask = (Rules.expectFlow f false).dstMask ∧
    (Rules.expectFlow f true).dstMask = (Rules.expectFlow f false).srcMask ∧
    (Rules.expectFlow f true).srcPorts = (Rules.expectFlow f false).dstPorts ∧
    (Rules.expectFlow f true).dstPorts = (Rules.expectFlow f false).srcPorts ∧
    (Rules.expectFlow f true).proto = (Rules.expectFlow f false).proto ∧
    (Rules.expectFlow f true).direction = (Rules.expectFlow f false).direction := by
  simp [Rules.expectFlow]

/-! ### non-vacuity: a concrete rule with odd spacing, a leading zero and a range -/
example : parseFlowDesc " permit\tout 017  from 10.1.2.0/24 80,1000-2000 to assigned\n".toList =
    some { dir := kwOut, proto := 17, src := { ip := [10, 1, 2, 0], mask := [255, 255, 255, 0] },
           dst := { ip := List.replicate 16 0, mask := List.replicate 16 0 },
           sports := [[80], [1000, 2000]], dports := [] } := by decide +kernel

end UpfVerif.C16
