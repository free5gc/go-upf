/-
C12 — ending or detaching a URR returns its final usage exactly once.

Over M-Core's `Sess` methods (node.go:113-161, 163-211, 401-446), for every session state and driver answer:
 * `detach_last`: dissociating a URR whose reference count is 1 queries the data plane once and returns the
   reports flagged TERMR; with a higher count it only decrements — no query, no report; an unknown URR or a
   count of 0 does nothing;
 * `remove_flags_termr`: Remove URR returns the driver's reports flagged TERMR and marks the bookkeeping removed;
   `query_flags_immer`: Query URR returns them flagged IMMER;
 * `update_pdr_counts`: Update PDR dissociates exactly the URRs its new list no longer names and counts exactly
   the ones it newly names (the `fix:` commit) — so a URR attached by Update PDR is final-reported when its last
   PDR goes (`attached_by_update_then_removed`, the history that failed before the fix);
 * once per URR: after the final report of a removed URR is emitted the entry is gone (C11 `emit_known`), and a
   count that reached 0 cannot trigger again (`detach_at_zero_silent`).
 * `count_is_refs` (the history theorem): after ANY history of Create / Update / Remove / Query URR and Create / Update /
   Remove PDR on a session — arbitrary URR lists (repeated ids included), URRs created before or after the PDRs naming
   them, any driver answers (faults anywhere), any map-iteration order — in which no Create PDR re-uses the id of a live
   PDR, the recorded count of every URR the session knows equals the number of PDRs whose current list names it;
 * `remove_pdr_final_once`, `update_pdr_final_once`: hence a Remove PDR / Update PDR the data plane accepts queries
   exactly the URRs that lose their last referring PDR in that request — each once, none else — whatever the order;
 * `removed_reported_once` (Remove URR and session deletion — the two response carriers drop the bookkeeping of a removed
   URR after its report): however many reports the data plane returned for a removed URR — the Remove URR answer, the
   dissociation query of a PDR removed in the same request, several records in one answer — exactly ONE usage-report IE
   for it goes into the response if the session knew it and there is a report at all, none otherwise;
 * `deletion_final_once` (session deletion, after ANY history of the rule operations above, no freshness hypothesis): `Sess.Close`
   removes every URR the session knows from the data plane exactly once — and no other id — whatever the order the maps
   are walked in and whatever the data plane answers; every report it hands back (from those removals and from the
   dissociation inside each PDR's removal) is marked as a termination report (`deletion_all_termr`); after it every URR
   the session still records is marked removed (`close_allRemoved`), so the Session Deletion Response carries exactly one
   usage-report IE per URR that had anything to report (`deletion_response_once`) — the deletion clause;
 * `recreate_live_pdr_breaks` (negation, by evaluation): Create PDR for a LIVE PDR id overwrites the PDR's URR set
   without releasing the references of the old set — the count no longer equals the number of referring PDRs and the
   final report of the dropped URR is never produced.  This is the hypothesis `count_is_refs` needs; it is a property
   of the code (node.go:126), recorded as known finding `recreatePdrLive`.
-/
import UpfVerif.Model.Core
import UpfVerif.Lemmas.Core
import UpfVerif.Lemmas.CoreRef
import UpfVerif.Lemmas.CoreDel
import UpfVerif.Lemmas.CoreEmit

namespace UpfVerif.C12
open UpfVerif.Core

def hasTERMR (r : Report) : Bool := r.trig &&& usarTERMR != 0
def hasIMMER (r : Report) : Bool := r.trig &&& usarIMMER != 0

theorem flag_sets (f : BitVec 32) (rs : List Report) : ∀ r ∈ flag f rs, r.trig &&& f = f :=
  flag_trig f rs

theorem flag_keeps (f : BitVec 32) (rs : List Report) :
    (flag f rs).map (fun r => (r.urr, r.meas)) = rs.map (fun r => (r.urr, r.meas)) := by
  simp [flag, List.map_map, Function.comp_def]

/-- the last PDR referring to the URR goes: one query, reports returned as termination reports -/
theorem detach_last (s : Sess) (u : Nat) (c : Ctx) (info : URRInfo) (h : alGet s.urrs u = some info)
    (h1 : info.refPdrNum = 1) :
    let call : DpCall := { seid := s.localID, op := .query, kind := .urr, id := u }
    (s.diassociate u c).2.1 = (c.call call).1 ∧
    (s.diassociate u c).2.2 = (if (c.call call).2.ok then flag usarTERMR (c.call call).2.reports else []) ∧
    (alGet (s.diassociate u c).1.urrs u).map (·.refPdrNum) = some 0 := by
  simp only [Sess.diassociate, h, h1]
  cases hok : (c.call { seid := s.localID, op := .query, kind := .urr, id := u }).2.ok <;> simp

/-- other PDRs still refer to it: the count goes down, nothing is queried or reported -/
theorem detach_not_last (s : Sess) (u : Nat) (c : Ctx) (info : URRInfo) (h : alGet s.urrs u = some info)
    (h1 : info.refPdrNum > 1) :
    (s.diassociate u c).2.1 = c ∧ (s.diassociate u c).2.2 = [] ∧
    (alGet (s.diassociate u c).1.urrs u).map (·.refPdrNum) = some (info.refPdrNum - 1) := by
  have hpos : info.refPdrNum > 0 := by omega
  have hnz : (info.refPdrNum - 1 == 0) = false := by simp; omega
  simp [Sess.diassociate, h, hpos, hnz]

/-- a count of 0 (already final-reported) or an unknown URR: silent — the final report is not repeated -/
theorem detach_at_zero_silent (s : Sess) (u : Nat) (c : Ctx)
    (h : alGet s.urrs u = none ∨ ∃ info, alGet s.urrs u = some info ∧ info.refPdrNum = 0) :
    s.diassociate u c = (s, c, []) := by
  rcases h with h | ⟨info, h, h0⟩
  · simp [Sess.diassociate, h]
  · simp [Sess.diassociate, h, h0]

theorem remove_flags_termr (s : Sess) (ie : RuleIE) (c : Ctx) (id : Nat) (info : URRInfo) (hid : ie.id = some id)
    (h : alGet s.urrs id = some info) :
    let call : DpCall := { seid := s.localID, op := .remove, kind := .urr, id := id }
    (s.removeURR ie c).2.2 = (if (c.call call).2.ok then some (flag usarTERMR (c.call call).2.reports) else none) ∧
    (alGet (s.removeURR ie c).1.urrs id).map (·.removed) = some true := by
  simp only [Sess.removeURR, hid, h]
  split <;> simp

theorem query_flags_immer (s : Sess) (ie : RuleIE) (c : Ctx) (id : Nat) (info : URRInfo) (hid : ie.id = some id)
    (h : alGet s.urrs id = some info) :
    let call : DpCall := { seid := s.localID, op := .query, kind := .urr, id := id }
    (s.queryURR ie c).2.2 = (if (c.call call).2.ok then flag usarIMMER (c.call call).2.reports else []) := by
  simp only [Sess.queryURR, hid, h]
  split <;> simp

/-- the history that lost its final report before the `fix:` commit: URR 1 created, PDR 1 created without URRs,
    PDR 1 updated to name URR 1, PDR 1 removed — the removal now queries URR 1 and reports it with TERMR -/
theorem attached_by_update_then_removed :
    let s0 : Sess := { rnode := 0, localID := 5, remoteID := 9 }
    let ok : DpCall × DpAns := (default, { ok := true })
    let rep : Report := { urr := 1, trig := 0, meas := [10, 20, 30] }
    let (s1, c1) := s0.createURR { id := some 1, meth := some (false, true) } { pending := [ok] }
    let (s2, c2) := s1.createPDR { id := some 1 } { c1 with pending := [ok] }
    let (s3, c3, r3) := s2.updatePDR { id := some 1, urrs := [1] } { c2 with pending := [ok] }
    let (s4, _, r4) := s3.removePDR { id := some 1 } { c3 with pending := [ok, (default, { ok := true, reports := [rep] })] }
    r3 = [] ∧ (alGet s3.urrs 1).map (·.refPdrNum) = some 1 ∧
    r4.map (fun r => (r.urr, hasTERMR r, r.meas)) = [(1, true, [10, 20, 30])] ∧
    (alGet s4.urrs 1).map (·.refPdrNum) = some 0 ∧ s4.pdrs = [] := by decide

/-- a URR shared by two PDRs is final-reported only when the second one goes -/
example :
    let s0 : Sess := { rnode := 0, localID := 5, remoteID := 9 }
    let ok : DpCall × DpAns := (default, { ok := true })
    let rep : Report := { urr := 1, trig := 0, meas := [] }
    let (s1, c1) := s0.createURR { id := some 1 } { pending := [ok] }
    let (s2, c2) := s1.createPDR { id := some 1, urrs := [1] } { c1 with pending := [ok] }
    let (s3, c3) := s2.createPDR { id := some 2, urrs := [1] } { c2 with pending := [ok] }
    let (s4, c4, r4) := s3.removePDR { id := some 1 } { c3 with pending := [ok] }
    let (_, _, r5) := s4.removePDR { id := some 2 } { c4 with pending := [ok, (default, { ok := true, reports := [rep] })] }
    r4 = [] ∧ r5.map (fun r => (r.urr, hasTERMR r)) = [(1, true)] := by decide

/-! ### once per URR in the response that ends it -/

/-- **once per URR**: in a response carrier, a URR marked removed gets exactly one IE if the session knows it and the
    batch has a report for it, and none otherwise — however many reports there are for it -/
theorem removed_reported_once (rs : List Report) (x : BitVec 32) (u : Nat) :
    ∀ (s : Sess), (∀ info, alGet s.urrs u = some info → info.removed = true) →
      ((emitUsars s rs x true).2.filter (·.urr == u)).length =
        if (alGet s.urrs u).isSome = true ∧ (∃ r ∈ rs, r.urr = u) then 1 else 0 := by
  intro s hrem
  rw [(emitUsars_for u x true rs s).2]
  cases hg : alGet s.urrs u with
  | none => simp [emitFor_none]
  | some i =>
    -- the first report for `u` gets the IE and drops the entry; the rest find nothing
    have he : i.emitted true = none := by rw [URRInfo.emitted, hrem i hg]; rfl
    cases hl : rs.filter (·.urr == u) with
    | nil =>
      have : ¬ ∃ r ∈ rs, r.urr = u := fun ⟨r, hr, e⟩ => by simpa [e] using List.filter_eq_nil_iff.mp hl r hr
      simp [emitFor, this]
    | cons r l =>
      have : ∃ r ∈ rs, r.urr = u := by
        have := List.mem_filter.mp (hl ▸ List.mem_cons_self : r ∈ rs.filter (·.urr == u))
        exact ⟨r, this.1, beq_iff_eq.mp this.2⟩
      simp [emitFor, he, emitFor_none, this]

/-- non-vacuity: URR 3 removed, three reports for it (two from the removal answer, one from a dissociation query) and one
    for URR 4 which is not removed: the response carries one IE for URR 3 (the first, UR-SEQN 5) and the one for URR 4 -/
example :
    let s : Sess := { rnode := 0, localID := 1, remoteID := 2,
                      urrs := [(3, { removed := true, seqn := 5, volum := true }), (4, { seqn := 9, volum := true })] }
    let rep (u n : Nat) : Report := { urr := u, trig := 0, meas := [n, 0, 0, 0, 0, 0, 1, 2, 3] }
    ((emitUsars s [rep 3 10, rep 4 20, rep 3 30, rep 3 40] usarTERMR true).2.map fun ie => (ie.urr, ie.seqn)) = [(3, 5), (4, 9)] := by
  decide

/-! ### the whole history -/

def run (s : Sess) (c : Ctx) : List SOp → Sess × Ctx
  | [] => (s, c)
  | op :: ops => run (op.apply s c).1 (op.apply s c).2 ops

/-- the one restriction: a Create PDR does not name a PDR that is live at that point -/
def Fresh (s : Sess) : SOp → Prop
  | .createPDR ie => alGet s.pdrs (ie.id.getD 0) = none
  | _ => True

def FreshRun (s : Sess) (c : Ctx) : List SOp → Prop
  | [] => True
  | op :: ops => Fresh s op ∧ FreshRun (op.apply s c).1 (op.apply s c).2 ops

instance (s : Sess) (op : SOp) : Decidable (Fresh s op) := by
  cases op <;> unfold Fresh <;> infer_instance

def decFreshRun : (ops : List SOp) → (s : Sess) → (c : Ctx) → Decidable (FreshRun s c ops)
  | [], _, _ => isTrue trivial
  | op :: ops, s, c =>
    match (inferInstance : Decidable (Fresh s op)), decFreshRun ops (op.apply s c).1 (op.apply s c).2 with
    | isTrue h1, isTrue h2 => isTrue ⟨h1, h2⟩
    | isFalse h1, _ => isFalse fun h => h1 h.1
    | _, isFalse h2 => isFalse fun h => h2 h.2

instance (s : Sess) (c : Ctx) (ops : List SOp) : Decidable (FreshRun s c ops) := decFreshRun ops s c

theorem apply_ref (s : Sess) (c : Ctx) (op : SOp) (h : RefInv s) (hf : Fresh s op) : RefInv (op.apply s c).1 := by
  cases op with
  | createURR ie => exact createURR_ref s ie c h
  | updateURR ie => exact updateURR_ref s ie c h
  | removeURR ie => exact removeURR_ref s ie c h
  | queryURR ie => exact queryURR_ref s ie c h
  | createPDR ie => exact createPDR_ref s ie c h hf
  | updatePDR ie => exact updatePDR_ref s ie c h
  | removePDR ie => exact removePDR_ref s ie c h

theorem refInv_new (rnode : Nat) (l r : Seid) : RefInv { rnode := rnode, localID := l, remoteID := r } :=
  ⟨by simp, by simp, by intro u n h; simp [refOf, alGet] at h⟩

/-- **C12, the bookkeeping half, for every history**: the recorded count of every known URR is the number of PDRs whose
    current URR list names it -/
theorem count_is_refs (ops : List SOp) : ∀ (s : Sess) (c : Ctx), RefInv s → FreshRun s c ops → RefInv (run s c ops).1 := by
  induction ops with
  | nil => intro s c h _; exact h
  | cons op ops ih =>
    intro s c h hf
    exact ih _ _ (apply_ref s c op h hf.1) hf.2

/-- **the last PDR referring to a URR is removed**: after any such history, a Remove PDR the data plane accepts queries
    URR `v` once if the session knows `v`, the PDR named it and no other PDR does — and not at all otherwise -/
theorem remove_pdr_final_once (ops : List SOp) (rnode : Nat) (l r : Seid) (c0 : Ctx)
    (hf : FreshRun { rnode := rnode, localID := l, remoteID := r } c0 ops)
    (ie : RuleIE) (pdrid : Nat) (us : List Nat) (hid : ie.id = some pdrid) :
    let s := (run { rnode := rnode, localID := l, remoteID := r } c0 ops).1
    let c := (run { rnode := rnode, localID := l, remoteID := r } c0 ops).2
    alGet s.pdrs pdrid = some us →
    (c.call { seid := s.localID, op := .remove, kind := .pdr, id := pdrid }).2.ok = true →
    ∀ v, qcount (s.removePDR ie c).2.1 s.localID v =
      qcount c s.localID v + (if v ∈ us ∧ (alGet s.urrs v).isSome = true ∧ refs s.pdrs v = 1 then 1 else 0) := by
  intro s c hg hok v
  have hinv : RefInv s := count_is_refs ops _ c0 (refInv_new rnode l r) hf
  rw [removePDR_queries s ie c hinv pdrid us hid hg hok v]
  simp only [refOf_one_iff s hinv v]

/-- **the last PDR referring to a URR is re-pointed elsewhere**: the same for Update PDR -/
theorem update_pdr_final_once (ops : List SOp) (rnode : Nat) (l r : Seid) (c0 : Ctx)
    (hf : FreshRun { rnode := rnode, localID := l, remoteID := r } c0 ops) (ie : RuleIE) (old : List Nat) :
    let s := (run { rnode := rnode, localID := l, remoteID := r } c0 ops).1
    let c := (run { rnode := rnode, localID := l, remoteID := r } c0 ops).2
    alGet s.pdrs (ie.id.getD 0) = some old →
    (c.call { seid := s.localID, op := .update, kind := .pdr, id := ie.id.getD 0 }).2.ok = true →
    ∀ v, qcount (s.updatePDR ie c).2.1 s.localID v =
      qcount c s.localID v +
        (if (v ∈ old ∧ v ∉ ie.urrs) ∧ (alGet s.urrs v).isSome = true ∧ refs s.pdrs v = 1 then 1 else 0) := by
  intro s c hg hok v
  have hinv : RefInv s := count_is_refs ops _ c0 (refInv_new rnode l r) hf
  rw [updatePDR_queries s ie c hinv old hg hok v]
  simp only [refOf_one_iff s hinv v, List.mem_eraseDups]

/-! ### a URR outlives its last referring PDR -/

/-- losing the last referring PDR returns the URR's usage (a termination report) but does not end the URR: the session knows
    exactly the same URRs after a Remove PDR / Update PDR as before — so a later Remove URR, Query URR, re-attachment or the
    session's deletion still finds it and returns what it measured since -/
theorem urr_outlives_last_pdr (s : Sess) (ie : RuleIE) (c : Ctx) :
    (s.removePDR ie c).1.urrs.map (·.1) = s.urrs.map (·.1) ∧ (s.updatePDR ie c).1.urrs.map (·.1) = s.urrs.map (·.1) :=
  detach_keeps_urr_table s ie c

/-! ### session deletion -/

theorem run_keys (ops : List SOp) : ∀ (s : Sess) (c : Ctx), UKeys s → UKeys (run s c ops).1 := by
  induction ops with
  | nil => intro s c h; exact h
  | cons op ops ih => intro s c h; exact ih _ _ (apply_keys s c op h)

theorem run_localID (ops : List SOp) : ∀ (s : Sess) (c : Ctx), (run s c ops).1.localID = s.localID := by
  induction ops with
  | nil => intro s c; rfl
  | cons op ops ih => intro s c; exact (ih _ _).trans (apply_localID s c op)

theorem close_once_of (s : Sess) (c : Ctx) (l : Seid) (hk : UKeys s) (hl : s.localID = l) (u : Nat) :
    rcount (s.close c).2.1 l u = rcount c l u + (if (alGet s.urrs u).isSome then 1 else 0) := by
  subst hl
  rw [close_removes_each_once s c hk u]
  simp only [alGet_isSome_iff]

/-- **session deletion, once per URR, for every history**: a session that has been through ANY sequence of Create / Update /
    Remove / Query URR and Create / Update / Remove PDR (any URR lists, any driver answers, any iteration orders; no
    freshness hypothesis) is deleted: every URR it knows at that point is removed from the data plane by exactly one
    REMOVE_URR — whose answer is the usage measured so far — and no REMOVE_URR goes out for any other id -/
theorem deletion_final_once (ops : List SOp) (rnode : Nat) (l r : Seid) (c0 : Ctx) (u : Nat) :
    rcount ((run { rnode := rnode, localID := l, remoteID := r } c0 ops).1.close
              (run { rnode := rnode, localID := l, remoteID := r } c0 ops).2).2.1 l u =
      rcount (run { rnode := rnode, localID := l, remoteID := r } c0 ops).2 l u +
        (if (alGet (run { rnode := rnode, localID := l, remoteID := r } c0 ops).1.urrs u).isSome then 1 else 0) :=
  close_once_of _ _ l (run_keys ops _ c0 (by simp [UKeys])) (run_localID ops _ c0) u

/-- … and everything that deletion hands back is marked as a termination report -/
theorem deletion_all_termr (s : Sess) (c : Ctx) : ∀ rep ∈ (s.close c).2.2, hasTERMR rep = true := by
  intro rep h
  have ht := close_termr s c rep h
  unfold hasTERMR
  unfold Report.termr at ht
  rw [ht]
  decide

/-- **the deletion response, once per URR**: the Session Deletion Response is built from what `Sess.Close` hands back
    (`handleDel`: `emitUsars s' rs TERMR true`).  Whatever the session went through before, however the maps are walked and
    whatever the data plane answered — several records for one URR, a dissociation query answered after the removal — the
    response carries exactly ONE usage-report IE for a URR if the session knew it and the data plane returned anything
    for it, and none otherwise -/
theorem deletion_response_once (s : Sess) (c : Ctx) (u : Nat) :
    (((emitUsars (s.close c).1 (s.close c).2.2 usarTERMR true).2.filter (·.urr == u)).length =
      if (alGet (s.close c).1.urrs u).isSome = true ∧ (∃ r ∈ (s.close c).2.2, r.urr = u) then 1 else 0) :=
  removed_reported_once (s.close c).2.2 usarTERMR u (s.close c).1 (fun info hi => close_allRemoved s c u info hi)

/-- the handler: for a live session recorded with its node, the Session Deletion Response is exactly the carrier of
    `deletion_response_once` — the usage-report IEs are `emitUsars` of what `Sess.Close` handed back, nothing added or
    dropped in between -/
theorem handleDel_usars (st : State) (addr : String) (seq : BitVec 24) (x : Seid) (env : Env) (c : Ctx) (s0 : Sess)
    (h : st.lnode.lookup x = some s0) (hm : x ∈ (st.nodes.getD s0.rnode default).sess) :
    ∃ st1 : State, handleDel st addr seq x env c =
      st1.sendRsp addr { kind := .delRsp, seq := seq, seid := some s0.remoteID, cause := some causeAccepted,
                         usars := (emitUsars (s0.close c).1 (s0.close c).2.2 usarTERMR true).2 } (s0.close c).2.1 := by
  unfold handleDel
  simp only [h]
  unfold State.deleteSess
  -- `modNode` leaves the session table alone: `deleteSess` finds `s0` too
  have hl : (st.modNode s0.rnode fun n => { n with sess := n.sess.filter (· != x) }).lnode.lookup x = some s0 := h
  simp only [hm, not_true_eq_false, if_false, hl]
  -- the handler matches on `Close`'s result, the statement projects from it: on a triple the two agree
  generalize s0.close c = r
  rcases r with ⟨s', c', rs⟩
  exact ⟨_, rfl⟩

/-- non-vacuity: two URRs, one of them shared by two PDRs; deletion removes each URR once, the reports of both come back
    flagged, and nothing is removed for an id the session does not know -/
def exDelRep (u n : Nat) : Report := { urr := u, trig := 0, meas := [n, 0, 0, 0, 0, 0, 1, 2, 3] }
def exDelCtx : Ctx :=
  { pending := List.replicate 4 (default, { ok := true }) ++
      [(default, { ok := true, reports := [exDelRep 7 10] }), (default, { ok := true, reports := [exDelRep 8 20] })] ++
      List.replicate 6 (default, { ok := true }) }
def exDelOps : List SOp :=
  [.createURR { id := some 7 }, .createURR { id := some 8 }, .createPDR { id := some 1, urrs := [7, 8] },
   .createPDR { id := some 2, urrs := [7] }]
def exDelClosed : Sess × Ctx × List Report :=
  (run { rnode := 0, localID := 5, remoteID := 9 } exDelCtx exDelOps).1.close
    (run { rnode := 0, localID := 5, remoteID := 9 } exDelCtx exDelOps).2

example : rcount exDelClosed.2.1 5 7 = 1 ∧ rcount exDelClosed.2.1 5 8 = 1 ∧ rcount exDelClosed.2.1 5 9 = 0 ∧
    (exDelClosed.2.2.map fun x => (x.urr, hasTERMR x)) = [(7, true), (8, true)] := by
  decide +kernel

example : ((emitUsars exDelClosed.1 exDelClosed.2.2 usarTERMR true).2.map fun ie => (ie.urr, ie.seqn)) = [(7, 0), (8, 0)] := by
  decide +kernel

/-- non-vacuity: a history with a URR created AFTER the PDR that names it, a repeated URR id, a shared URR and an
    Update PDR satisfies `FreshRun`, and ends in a state where the counts are (2, 1) -/
example :
    let ok : DpCall × DpAns := (default, { ok := true })
    let c0 : Ctx := { pending := List.replicate 8 ok }
    let ops := [SOp.createPDR { id := some 1, urrs := [7, 7] }, .createURR { id := some 7 }, .createURR { id := some 8 },
                .createPDR { id := some 2, urrs := [8] }, .updatePDR { id := some 2, urrs := [7, 8] }]
    let s := (run { rnode := 0, localID := 5, remoteID := 9 } c0 ops).1
    FreshRun { rnode := 0, localID := 5, remoteID := 9 } c0 ops ∧
    refOf s.urrs 7 = some 2 ∧ refOf s.urrs 8 = some 1 ∧ refs s.pdrs 7 = 2 ∧ refs s.pdrs 8 = 1 := by
  decide

/-- **the hypothesis is needed, and the code does not meet the property without it** (known finding `recreatePdrLive`):
    URR 7, PDR 1 naming it, then Create PDR 1 again with an empty list.  No PDR names URR 7 any more, the recorded count
    is still 1, and no final report was or will be produced: removing PDR 1 queries nothing. -/
theorem recreate_live_pdr_breaks :
    let ok : DpCall × DpAns := (default, { ok := true })
    let c0 : Ctx := { pending := List.replicate 8 ok }
    let ops := [SOp.createURR { id := some 7 }, .createPDR { id := some 1, urrs := [7] }, .createPDR { id := some 1 }]
    let s := (run { rnode := 0, localID := 5, remoteID := 9 } c0 ops).1
    let c := (run { rnode := 0, localID := 5, remoteID := 9 } c0 ops).2
    ¬ FreshRun { rnode := 0, localID := 5, remoteID := 9 } c0 ops ∧
    refs s.pdrs 7 = 0 ∧ refOf s.urrs 7 = some 1 ∧ qcount c 5 7 = 0 ∧
    qcount (s.removePDR { id := some 1 } c).2.1 5 7 = 0 := by
  decide

end UpfVerif.C12
