/-
C11 — UR-SEQN counts each URR's reports 0, 1, 2, … without gap or repeat.

All three carriers (Session Report Request, Modification Response, Deletion Response) go through one emission
loop (`Core.emitUsars` / `Core.emitOne`; session.go:311-327, 375-393; report.go:108-120).  Proved, for every
session state, every batch of reports, every URR:
 * `emit_known`: a usage-report IE carries exactly the URR's counter at the moment it is emitted, and the counter
   is then incremented by one — or the entry disappears when the URR had been removed (response carriers);
 * `emit_unknown`: a report for a URR the session does not know emits nothing and changes nothing;
 * `batch_consecutive`: within one batch the IEs of a URR carry n, n+1, …, n+k-1 in emission order, and the
   counter ends at n+k;
 * `other_urr_untouched`: emitting for one URR does not move the counter of another;
 * `create_resets`: a (re-)created URR starts at 0;
 * the other `Sess` methods do not touch the counter (`bump_keeps_seqn`, `update_keeps_seqn`);
 * `numbering_history` (the lifetime theorem): for EVERY history that mixes batches of reports on any of the carriers with
   Create / Update / Remove / Query URR and Create / Update / Remove PDR operations — any driver answers, any iteration
   order — as long as URR `u` itself is neither re-created nor removed, the UR-SEQN values emitted for `u`, in emission
   order over the whole history, are n, n+1, n+2, … (n its counter at the start, 0 after creation), one per report.
The uint32 wrap-around after 2^32 reports of one URR is outside the statement (the counter is a natural number).
-/
import UpfVerif.Model.Core
import UpfVerif.Lemmas.Core
import UpfVerif.Lemmas.CoreSeq
import UpfVerif.Lemmas.CoreEmit

namespace UpfVerif.C11
open UpfVerif.Core

theorem emit_unknown (s : Sess) (r : Report) (x : BitVec 32) (b : Bool) (h : alGet s.urrs r.urr = none) :
    emitOne s r x b = (s, none) := by simp [emitOne, h]

/-- the IE takes the counter; the counter moves on by exactly one (or the removed URR's entry is dropped) -/
theorem emit_known (s : Sess) (r : Report) (x : BitVec 32) (b : Bool) (info : URRInfo) (h : alGet s.urrs r.urr = some info) :
    ∃ ie, (emitOne s r x b).2 = some ie ∧ ie.urr = r.urr ∧ ie.seqn = info.seqn ∧
      (if b && info.removed then alGet (emitOne s r x b).1.urrs r.urr = none
       else alGet (emitOne s r x b).1.urrs r.urr = some { info with seqn := info.seqn + 1 }) := by
  refine ⟨usarOf r x info, by rw [emitOne_ie, h]; rfl, rfl, rfl, ?_⟩
  rw [emitOne_get, if_pos rfl, h, Option.bind_some, URRInfo.emitted]
  split <;> rfl

/-- emitting for one URR leaves every other URR's bookkeeping exactly as it was -/
theorem other_urr_untouched (s : Sess) (r : Report) (x : BitVec 32) (b : Bool) (u : Nat) (hu : u ≠ r.urr) :
    alGet (emitOne s r x b).1.urrs u = alGet s.urrs u := by
  rw [emitOne_get, if_neg hu]

def countFor (u : Nat) (rs : List Report) : Nat := (rs.filter (·.urr == u)).length

def seqnsFor (u : Nat) (ies : List UsarIE) : List Nat := (ies.filter (·.urr == u)).map (·.seqn)

/-- `(b && i.removed) = false`: the entry is not dropped on the way (the URR is not removed, or the carrier is a Session
    Report Request) -/
theorem emitFor_live (x : BitVec 32) (b : Bool) (l : List Report) : ∀ i : URRInfo, (b && i.removed) = false →
    (emitFor x b (some i) l).1 = some { i with seqn := i.seqn + l.length } ∧
    (emitFor x b (some i) l).2.map (·.seqn) = List.range' i.seqn l.length := by
  induction l with
  | nil => intro i _; exact ⟨rfl, rfl⟩
  | cons r l ih =>
    intro i hb
    have he : i.emitted b = some { i with seqn := i.seqn + 1 } := by rw [URRInfo.emitted, hb]; rfl
    obtain ⟨h1, h2⟩ := ih { i with seqn := i.seqn + 1 } hb
    rw [emitFor, he]
    exact ⟨by rw [h1, List.length_cons, Nat.add_assoc, Nat.add_comm 1], by rw [List.map_cons, h2]; rfl⟩

/-- within a batch: the numbers on URR `u`'s IEs are consecutive from its counter, whatever reports for other URRs lie between -/
theorem batch_consecutive (rs : List Report) (x : BitVec 32) (b : Bool) (u : Nat) (s : Sess) (info : URRInfo)
    (h : alGet s.urrs u = some info) (hb : (b && info.removed) = false) :
    seqnsFor u (emitUsars s rs x b).2 = List.range' info.seqn (countFor u rs) ∧
    alGet (emitUsars s rs x b).1.urrs u = some { info with seqn := info.seqn + countFor u rs } := by
  obtain ⟨e1, e2⟩ := emitUsars_for u x b rs s
  obtain ⟨l1, l2⟩ := emitFor_live x b (rs.filter (·.urr == u)) info hb
  rw [h] at e1 e2
  exact ⟨by rw [seqnsFor, e2, l2]; rfl, by rw [e1, l1]; rfl⟩

/-- a (re-)created URR starts at UR-SEQN 0, whatever was recorded under that id before -/
theorem create_resets (s : Sess) (ie : RuleIE) (c : Ctx) (id : Nat) (hid : ie.id = some id) :
    (alGet (s.createURR ie c).1.urrs id).map (·.seqn) = some 0 := by
  simp [Sess.createURR, hid]

/-- reference counting, method updates and removal marks do not touch the counter -/
theorem bump_keeps_seqn (us : List (Nat × URRInfo)) (u i : Nat) :
    (alGet (bumpRef us u) i).map (·.seqn) = (alGet us i).map (·.seqn) := by
  rw [alGet_bumpRef, Option.map_map]; rfl

theorem update_keeps_seqn (info : URRInfo) (ie : RuleIE) : (info.applyUpdate ie).seqn = info.seqn :=
  (applyUpdate_frame info ie).2.1

/-! ### the whole lifetime -/

/-- a step of a session's history: a rule operation, or a batch of usage reports emitted on a carrier
    (`resp = false`: Session Report Request; `true`: Modification / Deletion Response) -/
inductive HOp
  | rule (op : SOp)
  | emit (rs : List Report) (extra : BitVec 32) (resp : Bool)

def hrun : Sess → Ctx → List HOp → Sess × Ctx × List UsarIE
  | s, c, [] => (s, c, [])
  | s, c, .rule op :: ops => hrun (op.apply s c).1 (op.apply s c).2 ops
  | s, c, .emit rs x b :: ops =>
    ((hrun (emitUsars s rs x b).1 c ops).1, (hrun (emitUsars s rs x b).1 c ops).2.1,
     (emitUsars s rs x b).2 ++ (hrun (emitUsars s rs x b).1 c ops).2.2)

def reportsFor (u : Nat) : List HOp → Nat
  | [] => 0
  | .rule _ :: ops => reportsFor u ops
  | .emit rs _ _ :: ops => countFor u rs + reportsFor u ops

/-- URR `u` is neither (re-)created nor removed in the history -/
def Untouched (u : Nat) : List HOp → Prop
  | [] => True
  | .rule op :: ops => op.touches u = false ∧ Untouched u ops
  | .emit _ _ _ :: ops => Untouched u ops

def decUntouched (u : Nat) : (ops : List HOp) → Decidable (Untouched u ops)
  | [] => isTrue trivial
  | .rule op :: ops =>
    match (inferInstance : Decidable (op.touches u = false)), decUntouched u ops with
    | isTrue h1, isTrue h2 => isTrue ⟨h1, h2⟩
    | isFalse h1, _ => isFalse fun h => h1 h.1
    | _, isFalse h2 => isFalse fun h => h2 h.2
  | .emit _ _ _ :: ops => decUntouched u ops

instance (u : Nat) (ops : List HOp) : Decidable (Untouched u ops) := decUntouched u ops

theorem seqnsFor_append (u : Nat) (a b : List UsarIE) : seqnsFor u (a ++ b) = seqnsFor u a ++ seqnsFor u b := by
  simp [seqnsFor, List.filter_append]

/-- **UR-SEQN over the lifetime of a URR**: 0, 1, 2, … in emission order, no gap, no repeat, whatever else happens to
    the session in between -/
theorem numbering_history (u : Nat) (ops : List HOp) : ∀ (s : Sess) (c : Ctx) (n : Nat),
    numOf s.urrs u = some (n, false) → Untouched u ops →
    seqnsFor u (hrun s c ops).2.2 = List.range' n (reportsFor u ops) ∧
    numOf (hrun s c ops).1.urrs u = some (n + reportsFor u ops, false) := by
  induction ops with
  | nil => intro s c n h _; simp [hrun, reportsFor, seqnsFor, h]
  | cons op ops ih =>
    intro s c n h hu
    cases op with
    | rule o =>
      simp only [hrun, reportsFor]
      exact ih _ _ n (by rw [apply_num s c o u hu.1]; exact h) hu.2
    | emit rs x b =>
      simp only [hrun, reportsFor]
      obtain ⟨info, hg, hn, hr⟩ := numOf_eq_some.mp h
      have hb : (b && info.removed) = false := by simp [hr]
      obtain ⟨b1, b2⟩ := batch_consecutive rs x b u s info hg hb
      have hnum : numOf (emitUsars s rs x b).1.urrs u = some (n + countFor u rs, false) := by
        simp [numOf, b2, hn, hr]
      obtain ⟨i1, i2⟩ := ih (emitUsars s rs x b).1 c (n + countFor u rs) hnum hu
      constructor
      · -- the batch's numbers end where the rest of the history's begin
        rw [seqnsFor_append, b1, i1, hn, List.range'_append_1]
      · rw [i2]; simp [Nat.add_assoc]

/-- non-vacuity: URR 7 created, a report, a PDR naming it created, two reports in a response, its method updated, another
    URR removed, one more report: 0, 1, 2, 3 -/
example :
    let ok : DpCall × DpAns := (default, { ok := true })
    let c0 : Ctx := { pending := List.replicate 8 ok }
    let s0 : Sess := { rnode := 0, localID := 5, remoteID := 9 }
    let (s1, c1) := s0.createURR { id := some 7, meth := some (false, true) } c0
    let rep : Report := { urr := 7, trig := 2, meas := [] }
    let ops := [HOp.emit [rep] 0 false, .rule (.createPDR { id := some 1, urrs := [7] }), .emit [rep, { rep with urr := 8 }, rep] 0 true,
                .rule (.updateURR { id := some 7, meth := some (true, true) }), .rule (.removeURR { id := some 8 }), .emit [rep] 0 false]
    Untouched 7 ops ∧ seqnsFor 7 (hrun s1 c1 ops).2.2 = [0, 1, 2, 3] := by
  decide

/-! ### non-vacuity: three reports for URR 7 interleaved with one for URR 8, counter at 4 -/
example :
    let s : Sess := { rnode := 0, localID := 1, remoteID := 2,
                      urrs := [(7, { seqn := 4, volum := true }), (8, { seqn := 0 })] }
    let rs : List Report := [{ urr := 7, trig := 2, meas := [] }, { urr := 8, trig := 2, meas := [] },
                             { urr := 9, trig := 2, meas := [] }, { urr := 7, trig := 2, meas := [] },
                             { urr := 7, trig := 2, meas := [] }]
    seqnsFor 7 (emitUsars s rs 0 false).2 = [4, 5, 6] ∧ seqnsFor 8 (emitUsars s rs 0 false).2 = [0] ∧
    seqnsFor 9 (emitUsars s rs 0 false).2 = [] := by decide

/-- a retransmission timer expiring — a retry, or the last one, after which the request is given up — changes nothing in any
    session: in particular no UR-SEQN counter is rewound because a report was (perhaps) not delivered; the number that went out
    on the wire stays used -/
theorem timeout_keeps_numbering (st : State) (addr : String) (seq : BitVec 24) (env : Env) :
    (step st (.txTimeout addr seq) env).1.lnode = st.lnode ∧ (step st (.rxTimeout addr seq) env).1.lnode = st.lnode := by
  constructor
  · simp only [step]
    split
    · rfl
    · split <;> rfl
  · simp [step]

end UpfVerif.C11
