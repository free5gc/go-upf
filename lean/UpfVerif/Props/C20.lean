import UpfVerif.Model.Config
import UpfVerif.Spec.ConfigSpec
import UpfVerif.Lemmas.List
/-
C20 — start-up accepts only a valid configuration and a compatible gtp5g.

`startup_iff_spec`: for EVERY configuration document (any number of interface and DNN entries, every class of every field),
the start-up checks as the code performs them — YAML decode, govalidator over the struct tags REGENERATED from /repo,
node-id resolution, NewDriver's pre-checks — accept exactly the documents `ConfigSpec.acceptable` lists.  The per-field
lemmas are evaluated by the kernel on the regenerated tag table, so weakening a tag (`required` → `optional`, dropping
`host`, `cidr` or an `in(…)` value list) breaks them.
`version_window`: for all naturals x y z, the gtp5g version check accepts x.y.z iff 0.9.5 ≤ x.y.z < 0.10.0, with the
bounds regenerated from the source.
-/
namespace UpfVerif.C20
open UpfVerif.Config UpfVerif.ConfigSpec UpfVerif.Gen

/-! ### the regenerated tags say what the property lists -/

/-- what `govalidator` makes of each scalar field, by class of value: the field must be valid (`== .good`), must be
    there (`nonZero`), or need only decode (`typed`) -/
theorem tags (v : FV) :
    fieldOK configFields "Config" "Version" v = (v == .good) ∧
    fieldOK configFields "Config" "Description" v = v.typed ∧
    fieldOK configFields "Pfcp" "Addr" v = (v == .good) ∧
    fieldOK configFields "Pfcp" "NodeID" v = (v == .good) ∧
    fieldOK configFields "Pfcp" "RetransTimeout" v = nonZero v ∧
    fieldOK configFields "Pfcp" "MaxRetrans" v = v.typed ∧
    fieldOK configFields "Gtpu" "Forwarder" v = (v == .good) ∧
    fieldOK configFields "IfInfo" "Addr" v = (v == .good) ∧
    fieldOK configFields "IfInfo" "Type" v = (v == .good) ∧
    fieldOK configFields "IfInfo" "Name" v = v.typed ∧
    fieldOK configFields "IfInfo" "IfName" v = v.typed ∧
    fieldOK configFields "IfInfo" "MTU" v = v.typed ∧
    fieldOK configFields "DnnList" "Dnn" v = nonZero v ∧
    fieldOK configFields "DnnList" "Cidr" v = (v == .good) ∧
    fieldOK configFields "DnnList" "NatIfName" v = v.typed ∧
    fieldOK configFields "Logger" "Enable" v = v.typed ∧
    fieldOK configFields "Logger" "Level" v = (v == .good) ∧
    fieldOK configFields "Logger" "ReportCaller" v = v.typed := by
  cases v <;> decide

/-- the value lists of the `in(…)` validators are the ones the property names -/
theorem tag_values :
    ((tagOf configFields "Config" "Version").map (·.inVals), (tagOf configFields "Gtpu" "Forwarder").map (·.inVals),
     (tagOf configFields "IfInfo" "Type").map (·.inVals), (tagOf configFields "Logger" "Level").map (·.inVals)) =
    (some ["1.0.3"], some ["gtp5g"], some ["N3", "N9"], some ["trace", "debug", "info", "warn", "error", "fatal", "panic"]) := by
  decide +kernel

theorem sec_required :
    (tagOf configFields "Config" "Pfcp").map (·.required) = some true ∧
    (tagOf configFields "Config" "Gtpu").map (·.required) = some true ∧
    (tagOf configFields "Config" "DnnList").map (·.required) = some true ∧
    (tagOf configFields "Config" "Logger").map (·.required) = some true ∧
    (tagOf configFields "Gtpu" "IfList").map (·.required) = some false := by
  decide +kernel

/-- a field's zero value (nil pointer, empty list, missing section) passes iff the tag does not say `required` -/
theorem zero_passes {ts : List ConfigField} {s f : String} {r : Bool} (h : (tagOf ts s f).map (·.required) = some r) :
    (match tagOf ts s f with | some c => !c.required | none => false) = !r := by
  cases ht : tagOf ts s f with
  | none => rw [ht] at h; cases h
  | some c =>
    rw [ht] at h
    cases h
    rfl

theorem ptr_eq {α : Type} {ts : List ConfigField} {s f : String} {r : Bool}
    (h : (tagOf ts s f).map (·.required) = some r) (inner : α → Bool) (x : Sec α) :
    ptrOK ts s f inner x = (match x with | .present a => inner a | .mistyped => false | _ => !r) := by
  cases x with
  | present | mistyped => rfl
  | absent | null => exact zero_passes h

theorem list_eq {α : Type} {ts : List ConfigField} {s f : String} {r : Bool}
    (h : (tagOf ts s f).map (·.required) = some r) (inner : α → Bool) (x : Sec (List α)) :
    listOK ts s f inner x =
      (match x with | .present l => (!l.isEmpty || !r) && l.all inner | .mistyped => false | _ => !r) := by
  cases x with
  | present l =>
    cases l with
    | nil =>
      simp only [listOK, List.isEmpty_nil, if_true, List.all_nil, Bool.and_true, Bool.not_true, Bool.false_or]
      exact zero_passes h
    | cons => simp [listOK]
  | mistyped => rfl
  | absent | null => exact zero_passes h

theorem all_congr {α : Type} (f g : α → Bool) (l : List α) (h : ∀ x, f x = g x) : l.all f = l.all g := by
  have : f = g := funext h
  rw [this]

/-- **every document: the code's start-up checks accept it iff the specification lists it** -/
theorem startup_iff_spec (d : Doc) : startupOK configFields d = acceptable d := by
  obtain ⟨version, description, pfcp, gtpu, dnnList, logger, resolves⟩ := d
  unfold startupOK readConfigOK validateOK acceptable driverPreOK
  obtain ⟨h1, h2, h3, h4, h5⟩ := sec_required
  rw [ptr_eq h1, ptr_eq h2, list_eq h3, ptr_eq h4]
  simp only [tags, Bool.not_true, Bool.or_false]
  -- a section that is not there fails both sides: each line leaves the one goal where it is present
  rcases pfcp with _ | _ | _ | p <;> simp only [Bool.and_false, Bool.false_and]
  rcases gtpu with _ | _ | _ | ⟨fw, ifl⟩ <;> simp only [Bool.and_false, Bool.false_and]
  rcases dnnList with _ | _ | _ | l <;> simp only [Bool.and_false, Bool.false_and]
  rcases logger with _ | _ | _ | lg <;> simp only [Bool.and_false, Bool.false_and]
  rw [list_eq h5]
  simp only [Bool.not_false, Bool.or_true, Bool.true_and]
  rcases ifl with _ | _ | _ | il <;> simp only [Bool.and_false, Bool.false_and]
  -- all sections present: both sides are conjunctions over the same atoms
  simp only [decodeOK, Sec.typed, all_and]
  ac_rfl

/-- accepted only if: a rejected class anywhere (a missing required field, a violating value, a mistyped node, an
    unresolvable node id, no interface entry) means start-up fails — spelled out for the cases the property names -/
theorem rejects (d : Doc) (h : startupOK configFields d = true) :
    d.version = .good ∧ d.resolves = true ∧
    (∃ p, d.pfcp = .present p ∧ p.addr = .good ∧ p.nodeID = .good ∧ nonZero p.retrans = true) ∧
    (∃ g l, d.gtpu = .present g ∧ g.forwarder = .good ∧ g.ifList = .present l ∧ l ≠ [] ∧ ∀ e ∈ l, e.addr = .good ∧ e.type = .good) ∧
    (∃ l, d.dnnList = .present l ∧ l ≠ [] ∧ ∀ e ∈ l, nonZero e.dnn = true ∧ e.cidr = .good) ∧
    (∃ l, d.logger = .present l ∧ l.level = .good) := by
  rw [startup_iff_spec] at h
  obtain ⟨version, description, pfcp, gtpu, dnnList, logger, resolves⟩ := d
  simp only [acceptable, Bool.and_eq_true] at h
  obtain ⟨⟨⟨⟨⟨_, hv⟩, hp⟩, hg⟩, hd⟩, hlg⟩ := h
  -- each conjunct of the specification names its section: one that is not there makes it false
  rcases pfcp with _ | _ | _ | p <;> simp at hp
  rcases gtpu with _ | _ | _ | ⟨fw, ifl⟩ <;> simp at hg
  rcases ifl with _ | _ | _ | il <;> simp at hg
  rcases dnnList with _ | _ | _ | l <;> simp at hd
  rcases logger with _ | _ | _ | lg <;> simp at hlg
  simp at hv
  obtain ⟨⟨⟨hpa, hpn⟩, hres⟩, hpr⟩ := hp
  exact ⟨hv, hres, ⟨p, rfl, hpa, hpn, hpr⟩, ⟨_, il, rfl, hg.1, rfl, hg.2⟩, ⟨l, rfl, hd⟩, ⟨lg, rfl, hlg⟩⟩

theorem bounds : forwarder.expectedMinGtp5gVersion_segments = [0, 9, 5] ∧ forwarder.expectedMaxGtp5gVersion_segments = [0, 10, 0] := by
  decide

/-- **for all naturals x y z: the module version x.y.z is accepted iff 0.9.5 ≤ x.y.z < 0.10.0** -/
theorem version_window (x y z : Nat) :
    versionOK forwarder.expectedMinGtp5gVersion_segments forwarder.expectedMaxGtp5gVersion_segments [x, y, z] = true ↔
      versionAcceptable x y z := by
  rw [bounds.1, bounds.2]
  simp [versionOK, verLt, seg, versionAcceptable]
  omega

/-- a two-segment version x.y is x.y.0 -/
theorem version_two_segments (x y : Nat) :
    versionOK forwarder.expectedMinGtp5gVersion_segments forwarder.expectedMaxGtp5gVersion_segments [x, y] = false := by
  rw [bounds.1, bounds.2]
  simp [versionOK, verLt, seg]
  omega

/-! ### non-vacuity -/
def exGood : Doc :=
  { version := .good, description := .absent,
    pfcp := .present { addr := .good, nodeID := .good, retrans := .good, maxRetrans := .absent },
    gtpu := .present { forwarder := .good, ifList := .present [{ addr := .good, type := .good, name := .absent, ifname := .empty, mtu := .good }] },
    dnnList := .present [{ dnn := .good, cidr := .good, natif := .absent }, { dnn := .good, cidr := .good, natif := .good }],
    logger := .present { enable := .good, level := .good, reportCaller := .absent }, resolves := true }

example : startupOK configFields exGood = true := by decide +kernel
/-- one fault each: a DNN entry with a bad CIDR; an unresolvable node id; no interface entry; a mistyped timeout -/
example : startupOK configFields { exGood with dnnList := .present [{ dnn := .good, cidr := .bad, natif := .absent }] } = false := by decide +kernel
example : startupOK configFields { exGood with resolves := false } = false := by decide +kernel
example : startupOK configFields { exGood with gtpu := .present { forwarder := .good, ifList := .absent } } = false := by decide +kernel
example : startupOK configFields { exGood with pfcp := .present { addr := .good, nodeID := .good, retrans := .mistyped, maxRetrans := .absent } } = false := by decide +kernel
example : versionOK [0, 9, 5] [0, 10, 0] [0, 9, 5] = true ∧ versionOK [0, 9, 5] [0, 10, 0] [0, 9, 4] = false ∧
    versionOK [0, 9, 5] [0, 10, 0] [0, 10, 0] = false ∧ versionOK [0, 9, 5] [0, 10, 0] [0, 9, 4294967296] = true := by decide

end UpfVerif.C20
