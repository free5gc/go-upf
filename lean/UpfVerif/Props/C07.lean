/-
C07 — no datagram sequence can take the control plane down.   (PARTIAL by design, see DESIGN.md §7/C07)

Layer 1 — go-upf's own logic, proved over M-Core for every reachable state and every abstract event (any message
class, any SEID / id / sequence value, responses without request, unknown peers):
 * every slice access of the session table is in range: `lookup_index_safe` (the unsigned range check, for all
   2^64 SEID values), `reuse_index_safe` (the slot re-used by `NewSess`), and the table invariant they need holds in
   every reachable state (C01 `run_inv_from`, C04); `RemoteSess` only inspects live slots (`remoteSess_skips_nil`);
 * `Core.step` is a total function built from total operations only — the model contains no partial operation whose
   precondition is not discharged by one of the lemmas above — so no event has a faulting outcome;
 * `heartbeat_live`: in every state a Heartbeat Request is answered (first copy: a Heartbeat Response to the
   sender with its sequence number; retransmission: the cached answer);
 * sessions not addressed by a message are intact: C05 `mod_frame`, `del_frame`, `reset_frame`.
Layer 2 — decoding of the datagram (go-pfcp `message.Parse` and the IE accessors) is NOT proved here: it is covered by
the malformed-datagram correspondence stream only, and the one fault found there is a recorded known finding.
Layer 2, gtp5g driver path — structural, over facts regenerated from /repo on every run (Gen/Guards.lean, go/ast): every
driver entry point that walks the CONTENT of a rule IE (Create* / Update* of PDR, FAR, QER, URR, BAR) starts with
`defer ieFault(&<named error result>)`, `ieFault` calls `recover()` in its own body and stores the fault as the operation's
error (`driver_walks_guarded`, `guard_is_a_guard`); the entry points without the guard are exactly the Remove* ones, which
read the rule id only (`unguarded_read_id_only`).  Under Go's defer / recover semantics (trusted, modelled by `guarded`) a
guarded call never hands a fault to the event loop (`guarded_never_faults`).  What the IE walk inside the guard answers
is not modelled; that it does not fault PAST the guard is what the damaged-IE stream (`drvmal`) observes.
-/
import UpfVerif.Model.Core
import UpfVerif.Gen.Guards
import UpfVerif.Props.C04
import UpfVerif.Props.C05
import UpfVerif.Props.C08

namespace UpfVerif.C07
open UpfVerif.Core

/-- the index `int(lSeid) - 1` is inside the slice whenever the lookup gets as far as indexing — for every SEID -/
theorem lookup_index_safe (n : LNode) (x : Seid) (h0 : x ≠ 0) (h : ¬ x.toNat > n.sess.length) :
    x.toNat - 1 < n.sess.length := by
  have := C04.toNat_pos_of_ne_zero x h0
  omega

/-- `n.sess[s.LocalID-1] = s` in `NewSess` (re-use of a freed id) is inside the slice in every well-formed table -/
theorem reuse_index_safe (n : LNode) (wf : C04.TableWF n) (id : Seid) (hl : n.free.getLast? = some id) :
    1 ≤ id.toNat ∧ id.toNat - 1 < n.sess.length := by
  have hmem : id ∈ n.free := List.mem_of_getLast? hl
  have ⟨h1, h2⟩ := wf.freeRange id hmem
  exact ⟨h1, by omega⟩

/-- `RemoteSess` looks at live slots only (the nil-slot defect repaired by the `fix:` commit) -/
theorem remoteSess_skips_nil (nodes : List RNode) (rSeid : Seid) (addr : String) :
    matchRemote nodes rSeid addr none = false := rfl

/-- the loop body has an outcome for every state, event and environment -/
theorem step_total (st : State) (e : Event) (env : Env) : ∃ st' outs, step st e env = (st', outs) :=
  ⟨_, _, rfl⟩

/-- a Heartbeat Request (first copy) is answered in every state, whatever happened before -/
theorem heartbeat_live (st : State) (addr : String) (seq : BitVec 24) (env : Env)
    (h : alGet st.rx (addr, seq) = none) :
    (step st (.request addr seq .heartbeat) env).2 = [Out.send addr { kind := .hbRsp, seq := seq, recov := true }] :=
  C08.hb_answered st addr seq env h

/-- … and a retransmitted one gets the cached answer again -/
theorem heartbeat_retransmitted (st : State) (addr : String) (seq : BitVec 24) (env : Env) (m : Msg)
    (h : alGet st.rx (addr, seq) = some { rsp := some m }) :
    (step st (.request addr seq .heartbeat) env).2 = [Out.send addr m] := by
  simp [step, h, Ctx.emit]

/-- events that match nothing are ignored without effect: undecodable datagrams, responses and expiries without
    transaction, requests for unknown sessions leave every session as it was -/
theorem ignored_no_effect (st : State) (env : Env) : step st .ignored env = (st, []) := by simp [step]

theorem unknown_session_mod_intact (st : State) (wf : C04.TableWF st.lnode) (addr : String) (seq : BitVec 24)
    (r : ModReq) (env : Env) (c : Ctx) (y : Seid) (hy : y ≠ r.seid) :
    (handleMod st addr seq r env c).1.lnode.lookup y = st.lnode.lookup y :=
  C05.mod_frame st wf addr seq r env c y hy

/-! ### layer 2 on the gtp5g driver path: the fault guard of the rule entry points (regenerated facts) -/

/-- the driver entry points that walk the content of a grouped rule IE -/
def walksRuleIE : List String :=
  ["CreatePDR", "UpdatePDR", "CreateFAR", "UpdateFAR", "CreateQER", "UpdateQER", "CreateURR", "UpdateURR", "CreateBAR", "UpdateBAR"]

def readsIdOnly : List String := ["RemovePDR", "RemoveFAR", "RemoveQER", "RemoveURR", "RemoveBAR"]

/-- in /repo's current source every one of them starts with `defer ieFault(&<named error result>)` -/
theorem driver_walks_guarded : ∀ n ∈ walksRuleIE, (n, true) ∈ Gen.Guards.driverIE := by decide +kernel

/-- `ieFault` is a guard: it recovers in its own body and turns the fault into the operation's error -/
theorem guard_is_a_guard : Gen.Guards.guardRecovers = true ∧ Gen.Guards.guardSetsError = true := by decide

/-- no other exported entry point handed a rule IE is without the guard, except those that read the id only -/
theorem unguarded_read_id_only : ∀ p ∈ Gen.Guards.driverIE, p.2 = false → p.1 ∈ readsIdOnly := by decide +kernel

/-- outcome of a Go function body: it returns, or it faults (panics) -/
inductive Outcome (α : Type) | ret (a : α) | fault
deriving DecidableEq, Repr

/-- `func f(...) (rerr error) { defer guard(&rerr); body }` — Go's defer / recover: when the body faults and the deferred
    function recovers, `f` returns normally with the error the guard stored; when it does not recover, the fault goes on -/
def guarded (recovers : Bool) (body : Outcome (Except String α)) : Outcome (Except String α) :=
  match body with
  | .ret a => .ret a
  | .fault => if recovers then .ret (.error "malformed IE") else .fault

/-- with the guard of the current source, whatever the walk over the IE does, the entry point returns: the fault of one
    rule IE is the error of one rule, not the end of the event loop -/
theorem guarded_never_faults (body : Outcome (Except String α)) : guarded Gen.Guards.guardRecovers body ≠ .fault := by
  have h : Gen.Guards.guardRecovers = true := guard_is_a_guard.1
  rw [h]
  cases body <;> simp [guarded]

/-- … and a body that does not fault is not disturbed by it -/
theorem guarded_transparent (r : Bool) (a : Except String α) : guarded r (.ret a) = .ret a := rfl

/-- without a recovering guard the fault goes through (what b4acd18 repaired) -/
example : guarded false (Outcome.fault : Outcome (Except String Unit)) = .fault := rfl

/-- the extreme SEID values of the quantifier: all answered "not found", none indexes the table -/
example : let n := [C04.TOp.new 7, .new 8].foldl C04.applyOp {}
    n.lookup 0 = none ∧ n.lookup 3 = none ∧ n.lookup (BitVec.ofNat 64 (2^63)) = none ∧
    n.lookup (BitVec.ofNat 64 (2^63 + 1)) = none ∧ n.lookup (BitVec.ofNat 64 (2^64 - 1)) = none := by decide

end UpfVerif.C07
