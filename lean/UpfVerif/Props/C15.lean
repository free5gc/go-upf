import UpfVerif.Model.Perio
import UpfVerif.Gen.Consts
import UpfVerif.Lemmas.List
/-
C15 — periodic reporting queries exactly the URRs currently registered.

`registered gs s u p`: the server holds URR `u` of session `s` in the group of period `p`.
* `add_registered`, `del_registered`: ADD and DEL change exactly the addressed registration (DEL under the property's
  hypothesis, carried as the invariant `Disj`: a URR is held by at most one period group).
* `run_refines`: over EVERY history satisfying the hypothesis, the groups are exactly the registrations implied by the
  history (`specReg`: ADD registers, DEL removes, CLOSE clears) — induction over all event lists.
* `tick_exact` / `tick_exact_run`: a TIMEOUT of period `p` queries exactly those, each once, and makes no query when
  there are none (stale tick, unknown period).
* `ticker_iff`: a period's ticker runs iff some URR is registered with it; `close_releases_all`.
* `batches_*`: `queryMultiURR` splits ANY list of object ids into requests of at most `n`, none empty, whose
  concatenation is the list (nothing missing, repeated or foreign), for every `n > 0` and every length.
* `notify_spec`: each returned report is delivered once, to its own session, flagged PERIO, otherwise unchanged.
-/
namespace UpfVerif.C15
open UpfVerif.Perio

def registered (gs : List Group) (s u p : Nat) : Prop := ∃ g ∈ gs, g.period = p ∧ (s, u) ∈ g.mem

structure Inv (gs : List Group) : Prop where
  periods : (gs.map (·.period)).Nodup
  nonempty : ∀ g ∈ gs, g.mem ≠ []
  nodup : ∀ g ∈ gs, g.mem.Nodup

/-- the property's hypothesis as a state invariant: a URR is registered with at most one period -/
def Disj (gs : List Group) : Prop := ∀ s u p p', registered gs s u p → registered gs s u p' → p = p'

@[simp] theorem registered_nil (s u p : Nat) : ¬ registered [] s u p := by simp [registered]

@[simp] theorem registered_cons (g : Group) (gs : List Group) (s u p : Nat) :
    registered (g :: gs) s u p ↔ (g.period = p ∧ (s, u) ∈ g.mem) ∨ registered gs s u p := by
  simp [registered]

theorem registered_period {gs : List Group} {s u p : Nat} (h : registered gs s u p) : p ∈ gs.map (·.period) := by
  obtain ⟨g, hg, hp, _⟩ := h
  exact List.mem_map.mpr ⟨g, hg, hp⟩

theorem inv_nil : Inv [] := ⟨by simp, by simp, by simp⟩

theorem inv_cons (g : Group) (gs : List Group) :
    Inv (g :: gs) ↔ g.period ∉ gs.map (·.period) ∧ g.mem ≠ [] ∧ g.mem.Nodup ∧ Inv gs := by
  constructor
  · intro ⟨hper, hne, hnd⟩
    have hper := List.nodup_cons.mp hper
    have hne := List.forall_mem_cons.mp hne
    have hnd := List.forall_mem_cons.mp hnd
    exact ⟨hper.1, hne.1, hnd.1, hper.2, hne.2, hnd.2⟩
  · intro ⟨hper, hne, hnd, hgs⟩
    exact ⟨List.nodup_cons.mpr ⟨hper, hgs.periods⟩, List.forall_mem_cons.mpr ⟨hne, hgs.nonempty⟩,
      List.forall_mem_cons.mpr ⟨hnd, hgs.nodup⟩⟩

theorem disj_tail {g : Group} {gs : List Group} (h : Disj (g :: gs)) : Disj gs :=
  fun s u p p' h1 h2 => h s u p p' (by simp [h1]) (by simp [h2])

theorem head_only {g : Group} {gs : List Group} (hi : Inv (g :: gs)) (hd : Disj (g :: gs)) {s u : Nat}
    (hin : (s, u) ∈ g.mem) (p : Nat) : ¬ registered gs s u p := by
  intro hr
  -- by `Disj` the later group has the head's period, and `Inv` allows one group per period
  have e : g.period = p := hd s u g.period p (by simp [hin]) (by simp [hr])
  have hp : p ∈ gs.map (·.period) := registered_period hr
  rw [← e] at hp
  exact ((inv_cons g gs).mp hi).1 hp

/-! ### ADD -/

theorem addG_periods (gs : List Group) (s u p : Nat) :
    (addG gs s u p).map (·.period) = if p ∈ gs.map (·.period) then gs.map (·.period) else gs.map (·.period) ++ [p] := by
  induction gs with
  | nil => rfl
  | cons g gs ih =>
    simp only [addG]
    split
    · rename_i hgp
      have hp : p ∈ (g :: gs).map (·.period) := by simp [hgp]
      rw [if_pos hp]
      split <;> rfl
    · rename_i hgp
      have : ¬ p = g.period := fun e => hgp e.symm
      simp only [List.map_cons, ih, List.mem_cons, this, false_or]
      split <;> rfl

theorem add_registered (gs : List Group) (s u p s' u' p' : Nat) :
    registered (addG gs s u p) s' u' p' ↔ (s' = s ∧ u' = u ∧ p' = p) ∨ registered gs s' u' p' := by
  induction gs with
  | nil => simp [addG, eq_comm, and_comm, and_assoc]
  | cons g gs ih =>
    simp only [addG]
    split
    · split
      · -- the head is `p`'s group and holds the pair already: ADD changes nothing, and the new registration is an old one
        simp only [registered_cons]
        grind
      · -- the head is `p`'s group and gets the pair appended
        simp only [registered_cons, List.mem_append, List.mem_singleton, Prod.mk.injEq]
        grind
    · rw [registered_cons, registered_cons, ih]
      exact or_left_comm

theorem add_inv (gs : List Group) (s u p : Nat) (h : Inv gs) : Inv (addG gs s u p) := by
  induction gs with
  | nil => exact (inv_cons _ _).mpr ⟨by simp, by simp, by simp, inv_nil⟩
  | cons g gs ih =>
    obtain ⟨hper, hne, hnd, hgs⟩ := (inv_cons g gs).mp h
    simp only [addG]
    split
    · split
      · exact h
      · rename_i hnin
        exact (inv_cons _ _).mpr ⟨hper, by simp, nodup_concat.mpr ⟨hnin, hnd⟩, hgs⟩
    · rename_i hgp
      refine (inv_cons _ _).mpr ⟨?_, hne, hnd, ih hgs⟩
      rw [addG_periods]
      split
      · exact hper
      · simp [hper, hgp]

theorem add_disj (gs : List Group) (s u p : Nat) (h : Disj gs) (hyp : ∀ p', registered gs s u p' → p' = p) :
    Disj (addG gs s u p) := by
  intro s' u' p1 p2 h1 h2
  rw [add_registered] at h1 h2
  rcases h1 with ⟨rfl, rfl, rfl⟩ | h1 <;> rcases h2 with ⟨hs, hu, hp⟩ | h2
  · exact hp.symm
  · exact (hyp _ h2).symm
  · subst hs; subst hu; subst hp; exact hyp _ h1
  · exact h _ _ _ _ h1 h2

/-! ### DEL -/

theorem delG_periods (gs : List Group) (s u : Nat) : ((delG gs s u).map (·.period)).Sublist (gs.map (·.period)) := by
  induction gs with
  | nil => exact .slnil
  | cons g gs ih =>
    simp only [delG]
    split
    · split
      · exact .cons _ (List.Sublist.refl _)
      · exact List.Sublist.refl _
    · exact .cons_cons _ ih

theorem del_other (gs : List Group) (s u s' u' p' : Nat) (hne : (s', u') ≠ (s, u)) :
    registered (delG gs s u) s' u' p' ↔ registered gs s' u' p' := by
  induction gs with
  | nil => rfl
  | cons g gs ih =>
    simp only [delG]
    split
    · split
      · rename_i hemp
        -- the group is dropped: it held nothing but the addressed pair
        have hnin : (s', u') ∉ g.mem := by
          intro h
          have := (List.mem_erase_of_ne hne).mpr h
          rw [List.isEmpty_iff.mp hemp] at this
          cases this
        simp [hnin]
      · simp [List.mem_erase_of_ne hne]
    · simp [ih]

theorem del_self (gs : List Group) (s u p' : Nat) (hi : Inv gs) (hd : Disj gs) : ¬ registered (delG gs s u) s u p' := by
  induction gs with
  | nil => simp [delG]
  | cons g gs ih =>
    obtain ⟨_, _, hnd, higs⟩ := (inv_cons g gs).mp hi
    simp only [delG]
    split
    · rename_i hin
      have hnot := head_only hi hd hin p'
      split
      · exact hnot
      · simp [hnot, hnd.not_mem_erase]
    · rename_i hnin
      simp [hnin, ih higs (disj_tail hd)]

theorem del_registered (gs : List Group) (s u s' u' p' : Nat) (hi : Inv gs) (hd : Disj gs) :
    registered (delG gs s u) s' u' p' ↔ registered gs s' u' p' ∧ ¬ (s' = s ∧ u' = u) := by
  by_cases h : s' = s ∧ u' = u
  · obtain ⟨rfl, rfl⟩ := h
    simp [del_self _ _ _ _ hi hd]
  · have hne : (s', u') ≠ (s, u) := fun e => h (Prod.mk.inj e)
    simp [h, del_other _ _ _ _ _ _ hne]

theorem del_inv (gs : List Group) (s u : Nat) (h : Inv gs) : Inv (delG gs s u) := by
  induction gs with
  | nil => exact h
  | cons g gs ih =>
    obtain ⟨hper, hne, hnd, hgs⟩ := (inv_cons g gs).mp h
    simp only [delG]
    split
    · split
      · exact hgs
      · rename_i hemp
        exact (inv_cons _ _).mpr ⟨hper, by simpa [List.isEmpty_iff] using hemp, hnd.erase _, hgs⟩
    · exact (inv_cons _ _).mpr ⟨fun hq => hper ((delG_periods gs s u).subset hq), hne, hnd, ih hgs⟩

theorem del_disj (gs : List Group) (s u : Nat) (hi : Inv gs) (hd : Disj gs) : Disj (delG gs s u) := by
  intro a b p1 p2 h1 h2
  rw [del_registered gs s u _ _ _ hi hd] at h1 h2
  exact hd _ _ _ _ h1.1 h2.1

/-! ### TIMEOUT -/

theorem queryG_eq (gs : List Group) (p : Nat) : queryG gs p = (gs.find? (·.period = p)).map (·.mem) := by
  induction gs with
  | nil => rfl
  | cons g gs ih =>
    simp only [queryG, List.find?_cons, ih]
    by_cases h : g.period = p <;> simp [h]

theorem group_unique {gs : List Group} (hi : Inv gs) {g g' : Group} (hg : g ∈ gs) (hg' : g' ∈ gs)
    (hp : g.period = g'.period) : g = g' := by
  induction gs with
  | nil => cases hg
  | cons x xs ih =>
    obtain ⟨hper, _, _, hxs⟩ := (inv_cons x xs).mp hi
    rcases List.mem_cons.mp hg with rfl | hg1 <;> rcases List.mem_cons.mp hg' with rfl | hg1'
    · rfl
    · exact absurd (List.mem_map.mpr ⟨g', hg1', hp.symm⟩) hper
    · exact absurd (List.mem_map.mpr ⟨g, hg1, hp⟩) hper
    · exact ih hxs hg1 hg1'

/-- **a tick queries exactly the URRs registered with its period, each once; and nothing when there are none** -/
theorem tick_exact (gs : List Group) (p : Nat) (hi : Inv gs) :
    (∀ m, queryG gs p = some m → (∀ s u, (s, u) ∈ m ↔ registered gs s u p) ∧ m.Nodup ∧ m ≠ []) ∧
    (queryG gs p = none → ∀ s u, ¬ registered gs s u p) := by
  rw [queryG_eq]
  constructor
  · intro m hm
    obtain ⟨g, hf, rfl⟩ := Option.map_eq_some_iff.mp hm
    have hg : g ∈ gs := List.mem_of_find?_eq_some hf
    have hp : g.period = p := by simpa using List.find?_some hf
    refine ⟨fun s u => ⟨fun hmem => ⟨g, hg, hp, hmem⟩, ?_⟩, hi.nodup g hg, hi.nonempty g hg⟩
    rintro ⟨g', hg', hp', hmem⟩
    rw [group_unique hi hg hg' (hp.trans hp'.symm)]
    exact hmem
  · intro hnone s u ⟨g, hg, hp, _⟩
    simp only [Option.map_eq_none_iff, List.find?_eq_none] at hnone
    exact hnone g hg (by simpa using hp)

/-- a period's ticker runs iff some URR is registered with that period (released with the last one) -/
theorem ticker_iff (gs : List Group) (p : Nat) (hi : Inv gs) :
    p ∈ gs.map (·.period) ↔ ∃ s u, registered gs s u p := by
  constructor
  · intro h
    obtain ⟨g, hg, hp⟩ := List.mem_map.mp h
    obtain ⟨x, hx⟩ := List.exists_mem_of_ne_nil _ (hi.nonempty g hg)
    exact ⟨x.1, x.2, g, hg, hp, hx⟩
  · rintro ⟨s, u, h⟩
    exact registered_period h

/-! ### all histories -/

/-- the registrations a history implies -/
def specStep (reg : List (Nat × Nat × Nat)) (closed : Bool) : Ev → List (Nat × Nat × Nat) × Bool
  | .add s u p => if closed || reg.any (fun r => r.1 == s && r.2.1 == u) then (reg, closed) else (reg ++ [(s, u, p)], closed)
  | .del s u => if closed then (reg, closed) else (reg.filter (fun r => !(r.1 == s && r.2.1 == u)), closed)
  | .tick _ => (reg, closed)
  | .close => ([], true)

def specRun : List Ev → List (Nat × Nat × Nat) × Bool → List (Nat × Nat × Nat) × Bool
  | [], x => x
  | e :: es, x => specRun es (specStep x.1 x.2 e)

def runFrom : List Ev → St → St
  | [], st => st
  | e :: es, st => runFrom es (step st e)

/-- the hypothesis of the property on a history, from a given point: an ADD names a URR that is not registered, or
    repeats its current registration -/
def Hyp : List Ev → List (Nat × Nat × Nat) × Bool → Prop
  | [], _ => True
  | e :: es, x =>
    (match e with
     | .add s u p => ∀ p', (s, u, p') ∈ x.1 → p' = p
     | _ => True) ∧ Hyp es (specStep x.1 x.2 e)

structure Rel (st : St) (x : List (Nat × Nat × Nat) × Bool) : Prop where
  inv : Inv st.groups
  disj : Disj st.groups
  closed : st.closed = x.2
  reg : ∀ s u p, registered st.groups s u p ↔ (s, u, p) ∈ x.1

/-- the specification's ADD, under the hypothesis: the mirror of `add_registered` -/
theorem spec_add (reg : List (Nat × Nat × Nat)) (s u p : Nat) (hyp : ∀ p', (s, u, p') ∈ reg → p' = p) (r : Nat × Nat × Nat) :
    r ∈ (specStep reg false (.add s u p)).1 ↔ r = (s, u, p) ∨ r ∈ reg := by
  simp only [specStep, Bool.false_or]
  split
  · rename_i hany
    -- already registered (with the same period, by the hypothesis): ADD is idempotent
    obtain ⟨⟨r1, r2, r3⟩, hrm, hrs⟩ := List.any_eq_true.mp hany
    simp only [Bool.and_eq_true, beq_iff_eq] at hrs
    obtain ⟨rfl, rfl⟩ := hrs
    obtain rfl := hyp r3 hrm
    constructor
    · exact Or.inr
    · rintro (rfl | h)
      · exact hrm
      · exact h
  · simp [or_comm]

/-- the specification's DEL: the mirror of `del_registered` -/
theorem spec_del (reg : List (Nat × Nat × Nat)) (s u : Nat) (r : Nat × Nat × Nat) :
    r ∈ (specStep reg false (.del s u)).1 ↔ r ∈ reg ∧ ¬ (r.1 = s ∧ r.2.1 = u) := by
  simp [specStep, Decidable.imp_iff_not_or]

theorem rel_empty (b : Bool) : Rel { groups := [], closed := b } ([], b) := ⟨inv_nil, by simp [Disj], rfl, by simp⟩

theorem step_rel (st : St) (x : List (Nat × Nat × Nat) × Bool) (e : Ev) (h : Rel st x)
    (hyp : match e with | .add s u p => ∀ p', (s, u, p') ∈ x.1 → p' = p | _ => True) :
    Rel (step st e) (specStep x.1 x.2 e) := by
  obtain ⟨reg, cl⟩ := x
  obtain ⟨hi, hd, hc, hr⟩ := h
  simp only at hc hr hyp ⊢
  subst hc
  cases e with
  | tick p => exact ⟨hi, hd, rfl, hr⟩
  | close => exact rel_empty true
  | add s u p =>
    cases hcl : st.closed with
    | true =>
      simp only [step, specStep, hcl, Bool.true_or, if_true]
      exact ⟨hi, hd, hcl, hr⟩
    | false =>
      have hyp' : ∀ p', registered st.groups s u p' → p' = p := fun p' h => hyp p' ((hr s u p').mp h)
      have hs : step st (.add s u p) = { st with groups := addG st.groups s u p } := by simp [step, hcl]
      rw [hs]
      refine ⟨add_inv _ _ _ _ hi, add_disj _ _ _ _ hd hyp', ?_, fun s' u' p' => ?_⟩
      · simp only [specStep]
        split <;> exact hcl
      · rw [add_registered, spec_add _ _ _ _ hyp, hr, Prod.mk.injEq, Prod.mk.injEq]
  | del s u =>
    cases hcl : st.closed with
    | true =>
      simp only [step, specStep, hcl, if_true]
      exact ⟨hi, hd, hcl, hr⟩
    | false =>
      have hs : step st (.del s u) = { st with groups := delG st.groups s u } := by simp [step, hcl]
      rw [hs]
      refine ⟨del_inv _ _ _ hi, del_disj _ _ _ hi hd, hcl, fun s' u' p' => ?_⟩
      rw [del_registered _ _ _ _ _ _ hi hd, spec_del, hr]

theorem run_rel : ∀ (evs : List Ev) (st : St) (x : List (Nat × Nat × Nat) × Bool), Rel st x → Hyp evs x →
    Rel (runFrom evs st) (specRun evs x)
  | [], _, _, h, _ => h
  | e :: es, st, x, h, hy => run_rel es (step st e) (specStep x.1 x.2 e) (step_rel st x e h hy.1) hy.2

/-- **over every history satisfying the hypothesis, the server holds exactly the registrations the history implies** -/
theorem run_refines (evs : List Ev) (hy : Hyp evs ([], false)) (s u p : Nat) :
    registered (runFrom evs {}).groups s u p ↔ (s, u, p) ∈ (specRun evs ([], false)).1 :=
  (run_rel evs {} ([], false) (rel_empty false) hy).reg s u p

/-- **…and a tick after any such history queries exactly the URRs registered with its period, once each; none ⇒ no query** -/
theorem tick_exact_run (evs : List Ev) (hy : Hyp evs ([], false)) (p : Nat) :
    (∀ m, query (runFrom evs {}) p = some m →
        (∀ s u, (s, u) ∈ m ↔ (s, u, p) ∈ (specRun evs ([], false)).1) ∧ m.Nodup) ∧
    (query (runFrom evs {}) p = none → (runFrom evs {}).closed = true ∨ ∀ s u, (s, u, p) ∉ (specRun evs ([], false)).1) := by
  have R := run_rel evs {} ([], false) (rel_empty false) hy
  have T := tick_exact (runFrom evs {}).groups p R.inv
  simp only [R.reg] at T
  unfold query
  cases (runFrom evs {}).closed with
  | true => simp
  | false =>
    simp only [Bool.false_eq_true, if_false]
    exact ⟨fun m hm => ⟨(T.1 m hm).1, (T.1 m hm).2.1⟩, fun hn => Or.inr (T.2 hn)⟩

/-- the number of ticker goroutines is the number of distinct periods in use (one group per period, none empty) -/
theorem tickers_periods (evs : List Ev) (hy : Hyp evs ([], false)) (p : Nat) :
    p ∈ (runFrom evs {}).groups.map (·.period) ↔ ∃ s u, (s, u, p) ∈ (specRun evs ([], false)).1 := by
  have R := run_rel evs {} ([], false) (rel_empty false) hy
  simp only [ticker_iff _ _ R.inv, R.reg]

/-- closing releases every timer, whatever was registered; afterwards no tick queries anything -/
theorem close_releases_all (st : St) : tickers (step st .close) = 0 ∧ ∀ p, query (step st .close) p = none := by
  simp [step, tickers, query]

theorem closed_stays (st : St) (e : Ev) (h : st.closed = true) : (step st e).closed = true ∧ (step st e).groups = st.groups ∨ e = .close := by
  cases e <;> simp [step, h]

/-! ### batching -/

theorem batchesAux_flatten (n : Nat) : ∀ (l cur : List (Nat × Nat)), (batchesAux n l cur).flatten = cur ++ l
  | [], cur => by cases cur <;> simp [batchesAux]
  | x :: rest, cur => by
    simp only [batchesAux]
    split <;> simp [batchesAux_flatten n rest]

/-- nothing missing, nothing repeated, nothing foreign: the requests, one after another, name exactly the registered URRs -/
theorem batches_flatten (n : Nat) (l : List (Nat × Nat)) : (batches n l).flatten = l :=
  batchesAux_flatten n l []

/-- the loop's invariant is that the open batch is short of `n`; every batch it closes has at most `n` -/
theorem batchesAux_bounds (n : Nat) : ∀ (l cur : List (Nat × Nat)), cur.length < n →
    ∀ b ∈ batchesAux n l cur, b ≠ [] ∧ b.length ≤ n
  | [], cur, hc, b, hb => by
    cases cur <;> simp [batchesAux] at hb
    subst hb
    exact ⟨by simp, by omega⟩
  | x :: rest, cur, hc, b, hb => by
    simp only [batchesAux] at hb
    split at hb
    · rcases List.mem_cons.mp hb with rfl | hb'
      · exact ⟨by simp, by simp; omega⟩
      · exact batchesAux_bounds n rest [] (by simp; omega) b hb'
    · rename_i hlt
      exact batchesAux_bounds n rest (cur ++ [x]) (by simp at hlt ⊢; omega) b hb

/-- what a batched query hands back: when the data plane answers each request with one report per URR it names, the
    concatenation of the answers is one report per registered URR, in order — none twice, none missing — for EVERY number
    of URRs, exact multiples of the batch size included -/
theorem batched_answers_each_once {β : Type} (n : Nat) (l : List (Nat × Nat)) (f : Nat × Nat → β) :
    (batches n l).flatMap (fun b => b.map f) = l.map f := by
  rw [List.flatMap_def, ← List.map_flatten, batches_flatten]

/-- every request names at least one and at most `n` URRs — for every list, every length, every limit `n > 0` -/
theorem batches_bounds (n : Nat) (hn : 0 < n) (l : List (Nat × Nat)) : ∀ b ∈ batches n l, b ≠ [] ∧ b.length ≤ n :=
  batchesAux_bounds n l [] hn

/-! ### notifications -/

/-- each returned report is delivered once, to the session it belongs to, flagged PERIO, otherwise unchanged -/
theorem notify_spec (answer : List (Nat × List (Nat × Nat))) :
    (notify Gen.report.USAR_TRIG_PERIO answer).map (·.1) = answer.map (·.1) ∧
    (notify Gen.report.USAR_TRIG_PERIO answer).map (fun e => e.2.map (·.1)) = answer.map (fun e => e.2.map (·.1)) ∧
    ∀ e ∈ notify Gen.report.USAR_TRIG_PERIO answer, ∀ r ∈ e.2, r.2 % 2 = 1 := by
  refine ⟨by simp [notify, Function.comp_def], by simp [notify, Function.comp_def], ?_⟩
  intro e he r hr
  obtain ⟨⟨seid, rs⟩, _, rfl⟩ := List.mem_map.mp he
  obtain ⟨⟨u, f⟩, _, rfl⟩ := List.mem_map.mp hr
  show (f ||| Gen.report.USAR_TRIG_PERIO) % 2 = 1
  exact Nat.or_mod_two_eq_one.mpr (Or.inr rfl)

/-! ### non-vacuity: a history in which two sessions share a period, one of them loses its last URR, and a stale tick
     arrives for a period whose last URR is gone -/
def exHist : List Ev := [.add 1 1 3600, .add 2 7 3600, .add 1 2 3600, .add 9 1 7200, .del 2 7, .del 9 1, .add 1 1 3600]

example : Hyp exHist ([], false) := by
  simp [exHist, Hyp, specStep]
example : query (runFrom exHist {}) 3600 = some [(1, 1), (1, 2)] ∧ query (runFrom exHist {}) 7200 = none ∧
    tickers (runFrom exHist {}) = 1 := by decide
example : (batches 3 [(1, 1), (1, 2), (1, 3), (2, 1), (2, 2), (2, 3), (3, 1)]).map (·.length) = [3, 3, 1] := by decide

end UpfVerif.C15
