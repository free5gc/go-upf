/-
C01 — data-plane rules never outlive, escape or pre-date their PFCP session.

Run M-Core (`Core.step`) against the reference data plane `Spec.DataPlane`.  For EVERY history of events
(Association Setup, Establishment, Modification, Deletion, report responses incl. SEID 0, reports, timer expiries,
duplicates, from any peers, with any rule ids — colliding, repeated, never created, removed twice), EVERY
map-iteration order and EVERY answer stream of the driver in which creates, updates and queries fail wherever
they like and a remove fails only when the rule is absent (`Spec.natural`):

 * `run_inv`            every rule in the data plane belongs to a live session and is recorded in that
                        session's id maps (so it was requested by a Create IE for that session and not
                        successfully removed since: ids are recorded only by the Create methods and
                        dropped only after a successful driver remove);
 * `ops_only_on_created` Update / Remove / Query reach the driver only for ids the session has recorded;
 * `close_withdraws_all` when a session is closed — by Deletion, by re-association of its node, by the
                        SEID-0 answer — no rule of it is left in the data plane, even if earlier
                        installations or updates had failed;
 * all driver calls of a session method carry that session's SEID.
-/
import UpfVerif.Lemmas.CoreInv

namespace UpfVerif.C01
open UpfVerif.Core UpfVerif.Spec

def runFrom (st : State) (dp : DP) : List (Event × Env) → State × DP
  | [] => (st, dp)
  | (e, env) :: rest => runFrom (step st e env).1 (dpRun dp (step st e env).2) rest

/-- the environment respects the fault model along the whole history -/
def naturalRun (st : State) (dp : DP) : List (Event × Env) → Prop
  | [] => True
  | (e, env) :: rest => natural dp (step st e env).2 ∧ naturalRun (step st e env).1 (dpRun dp (step st e env).2) rest

theorem run_inv_from (h : List (Event × Env)) :
    ∀ (st : State) (dp : DP) (k : Nat), C04.TableWF st.lnode → st.lnode.sess.length ≤ k → k + h.length + 1 < 2 ^ 64 →
      Inv st dp → naturalRun st dp h →
      Inv (runFrom st dp h).1 (runFrom st dp h).2 ∧ C04.TableWF (runFrom st dp h).1.lnode := by
  induction h with
  | nil => intro st dp k wf _ _ inv _; exact ⟨inv, wf⟩
  | cons p h ih =>
    intro st dp k wf hk hroom inv hn
    obtain ⟨e, env⟩ := p
    simp only [runFrom]
    simp only [naturalRun] at hn
    simp only [List.length_cons] at hroom
    -- a step keeps the table well-formed, lengthens it by at most one slot (hence the bound `k`), and keeps `Inv`
    obtain ⟨gwf, glen, ginv⟩ := step_good st e env wf (by omega)
    exact ih _ _ (k + 1) gwf (by omega) (by omega) (ginv dp inv hn.1) hn.2

/-- **Every reachable state, for every history**: each rule in the data plane belongs to a live session that has
    it recorded.  (Start: empty UPF, empty data plane; `h.length + 1 < 2^64` is "fewer than 2^64 events".) -/
theorem run_inv (h : List (Event × Env)) (hlen : h.length + 1 < 2 ^ 64) (hn : naturalRun {} [] h) :
    let r := runFrom {} [] h
    ∀ x k i, (x, k, i) ∈ r.2 → ∃ s, r.1.lnode.lookup x = some s ∧ s.localID = x ∧ i ∈ s.ids k := by
  intro r x k i hm
  have inv0 : Inv {} [] := by intro x k i hm; cases hm
  obtain ⟨inv, wf⟩ := run_inv_from h {} [] 0 C04.wf_empty (by simp) (by omega) inv0 hn
  obtain ⟨s, hs, h1, _⟩ := inv x k i hm
  exact ⟨s, hs, C04.lookup_some_id _ wf x s hs, h1⟩

/-- **re-association withdraws the rules**: `RemoteNode.Reset` of a node, in a state whose data plane satisfies the invariant:
    afterwards no rule of any session that was in the node's set is left in the data plane — whatever the order the sessions
    are closed in, whatever had failed to install earlier (C05 `reset_sweeps`: those SEIDs resolve to nothing; the invariant:
    every rule belongs to a SEID that resolves) -/
theorem reassociation_withdraws_rules (st : State) (dp : DP) (h : Nat) (env : Env) (c : Ctx)
    (wf : C04.TableWF st.lnode) (hroom : st.lnode.sess.length + 1 < 2 ^ 64) (inv : Inv st dp) (hh : h < st.nodes.length)
    (l : List Out) (hl : (st.resetNode h env c).2.outs = c.outs ++ l) (hn : natural dp l)
    (x : Seid) (hx : x ∈ (st.nodes.getD h default).sess) : ∀ k i, (x, k, i) ∉ dpRun dp l := by
  intro k i hm
  obtain ⟨s, hs, _⟩ := ((resetNode_quiet st h env c).1.of_outs hl wf hroom).2.2 dp inv hn x k i hm
  rw [C05.reset_sweeps st wf h env c hh x hx] at hs
  cases hs

/-- closing a session withdraws every rule of it, in any removal order, whatever installations had failed -/
theorem close_withdraws_all (s : Sess) (c : Ctx) :
    ∃ l, (s.close c).2.1.outs = c.outs ++ l ∧
      (∀ o ∈ l, ∃ cc a, o = Out.dp cc a ∧ cc.seid = s.localID) ∧
      ∀ dp, SInv s dp → natural dp l → ∀ k i, (s.localID, k, i) ∉ dpRun dp l := by
  obtain ⟨_, l, e, d, _, p⟩ := close_clears s c
  exact ⟨l, e, d, fun dp hs hn => (p dp hs hn).2⟩

/-- Update / Remove / Query of the simple kinds reach the driver only for recorded ids (found-check) -/
theorem ops_only_on_created_simple (s : Sess) (k : Kind) (ie : RuleIE) (c : Ctx) (id : Nat) (hid : ie.id = some id)
    (hnot : id ∉ s.ids k) :
    (s.updateSimple k ie c).2 = c ∧ (s.removeSimple k ie c).2 = c := by
  simp [Sess.updateSimple, Sess.removeSimple, hid, hnot]

theorem ops_only_on_created_pdr (s : Sess) (ie : RuleIE) (c : Ctx) (hnot : alGet s.pdrs (ie.id.getD 0) = none) :
    (s.updatePDR ie c).2.1 = c := by
  simp [Sess.updatePDR, hnot]

theorem ops_only_on_created_pdr_remove (s : Sess) (ie : RuleIE) (c : Ctx) (id : Nat) (hid : ie.id = some id)
    (hnot : alGet s.pdrs id = none) : (s.removePDR ie c).2.1 = c := by
  simp [Sess.removePDR, hid, hnot]

theorem ops_only_on_created_urr (s : Sess) (ie : RuleIE) (c : Ctx) (id : Nat) (hid : ie.id = some id)
    (hnot : alGet s.urrs id = none) :
    (s.updateURR ie c).2.1 = c ∧ (s.removeURR ie c).2.1 = c ∧ (s.queryURR ie c).2.1 = c := by
  simp [Sess.updateURR, Sess.removeURR, Sess.queryURR, hid, hnot]

/-! ### non-vacuity: a failed create is still cleaned up when the session is deleted -/
example :
    let st0 : State := {}
    let (st1, _) := step st0 (.request "p1" 1 (.assoc (some (.v4 "p1")))) {}
    -- establishment: FAR 1 is created, the create of FAR 2 fails in the data plane
    let env2 : Env := { pending := [(default, { ok := true }), (default, { ok := false })] }
    let req : EstReq := { nodeID := some (.v4 "p1"), cpSeid := some 9#64, far := [{ id := some 1 }, { id := some 2 }] }
    let (st2, o2) := step st1 (.request "p1" 2 (.est req)) env2
    -- deletion: both are removed (the second remove fails naturally: the rule is absent)
    let env3 : Env := { pending := [(default, { ok := true }), (default, { ok := false })] }
    let (_, o3) := step st2 (.request "p1" 3 (.del 1)) env3
    dpRun [] o2 = [((1 : Seid), Kind.far, 1)] ∧ natural (dpRun [] o2) o3 ∧ dpRun (dpRun [] o2) o3 = [] := by decide

end UpfVerif.C01
