/-
C06 — retransmitted requests are executed at most once and re-answered identically.

Over M-Core's loop body (`Core.step`, pfcp.go:132-152, 285-298; transaction.go:122-193):
a request whose (source address, sequence number) has a receive transaction is never dispatched: the state is
unchanged, no driver call is made, and the output is exactly the cached response (or nothing if none was
produced); requests that differ in address or sequence number have different keys and never hit each other's
entry; expiry of the retention timer releases the entry; the retention window is T × (N + 1) for every
configurable N (0..255).
-/
import UpfVerif.Model.Core
import UpfVerif.Lemmas.Core
import UpfVerif.Lemmas.List
import UpfVerif.Lemmas.CoreStep

namespace UpfVerif.C06
open UpfVerif.Core

/-- duplicate within the window: nothing is executed, the cached response is replayed byte-identically
    (the cached `Msg` is the marshalled buffer `rx.msgBuf`), or nothing is sent if none was produced -/
theorem dup_replayed (st : State) (addr : String) (seq : BitVec 24) (r : Req) (env : Env) (rx : Rx)
    (h : alGet st.rx (addr, seq) = some rx) :
    step st (.request addr seq r) env =
      (st, match rx.rsp with
           | some m => [Out.send addr m]
           | none => []) := by
  unfold step
  simp only [h]
  cases rx.rsp <;> simp [Ctx.emit]

/-- in particular a duplicate makes no driver call, whatever the request says and whatever the environment would answer -/
theorem dup_no_dp (st : State) (addr : String) (seq : BitVec 24) (r : Req) (env : Env) (rx : Rx)
    (h : alGet st.rx (addr, seq) = some rx) :
    ∀ o ∈ (step st (.request addr seq r) env).2, ∀ c a, o ≠ Out.dp c a := by
  rw [dup_replayed st addr seq r env rx h]
  intro o ho c a
  cases hr : rx.rsp with
  | none => simp [hr] at ho
  | some m => simp [hr] at ho; subst ho; simp

/-- **any number of duplicates**: however many copies of the request arrive inside the window — one, the retry count, or
    many more — none is executed, each is answered with the same cached response, and the transaction is still there for
    the next one (the requests may even differ in content: same source address and sequence number is what counts) -/
theorem dups_replayed (addr : String) (seq : BitVec 24) (rx : Rx) (dups : List (Req × Env)) :
    ∀ (st : State), alGet st.rx (addr, seq) = some rx →
      (dups.foldl (fun (acc : State × List (List Out)) d =>
          ((step acc.1 (.request addr seq d.1) d.2).1, acc.2 ++ [(step acc.1 (.request addr seq d.1) d.2).2])) (st, [])) =
        (st, dups.map fun _ => match rx.rsp with
                               | some m => [Out.send addr m]
                               | none => []) := by
  intro st h
  simpa using foldl_replay (fun st (d : Req × Env) => step st (.request addr seq d.1) d.2) st _
    (fun d => dup_replayed st addr seq d.1 d.2 rx h) dups []

/-- different source address or different sequence number ⇒ different key: creating / answering / releasing the
    transaction of one request never changes what another key resolves to -/
theorem no_confusion_set (rxs : List ((String × BitVec 24) × Rx)) (k k' : String × BitVec 24) (v : Rx) (h : k' ≠ k) :
    alGet (alSet rxs k v) k' = alGet rxs k' := alGet_alSet_other rxs k k' v h

theorem no_confusion_del (rxs : List ((String × BitVec 24) × Rx)) (k k' : String × BitVec 24) (h : k' ≠ k) :
    alGet (alDel rxs k) k' = alGet rxs k' := alGet_alDel_other rxs k k' h

theorem key_ne_of_addr (a a' : String) (s s' : BitVec 24) (h : a ≠ a') : (a, s) ≠ (a', s') := by
  intro hc; exact h (Prod.mk.inj hc).1
theorem key_ne_of_seq (a a' : String) (s s' : BitVec 24) (h : s ≠ s') : (a, s) ≠ (a', s') := by
  intro hc; exact h (Prod.mk.inj hc).2

/-- once the window has elapsed the bookkeeping is released, and nothing else changes -/
theorem released (st : State) (addr : String) (seq : BitVec 24) (env : Env) :
    let r := step st (.rxTimeout addr seq) env
    alGet r.1.rx (addr, seq) = none ∧ r.2 = [] ∧ r.1.lnode = st.lnode ∧ r.1.tx = st.tx ∧ r.1.rnodes = st.rnodes := by
  simp [step]

/-- after release, the next copy is a first copy again (it is dispatched): the at-most-once guarantee is
    exactly "between two expiries of the key" -/
theorem after_release_first_copy (st : State) (addr : String) (seq : BitVec 24) (env : Env) :
    alGet (step st (.rxTimeout addr seq) env).1.rx (addr, seq) = none := (released st addr seq env).1

/-- the retained response survives everything that is not its own expiry: in particular the expiry of a TRANSMIT
    transaction that happens to carry the same "<address>-<sequence number>" (the UPF numbers its own requests 0, 1, 2, …
    towards the same address) -/
theorem retained_survives_tx_timeout (st : State) (addr : String) (seq : BitVec 24) (env : Env) (rx : Rx)
    (h : alGet st.rx (addr, seq) = some rx) (addr' : String) (seq' : BitVec 24) :
    alGet (step st (.txTimeout addr' seq') env).1.rx (addr, seq) = some rx := by
  rw [(step_footprint st (.txTimeout addr' seq') env).1]; exact h

/-- does the event concern the receive transaction `k` itself — a copy of the request, or its retention expiry? -/
def Event.concerns (k : String × BitVec 24) : Event → Prop
  | .request a q _ => (a, q) = k
  | .rxTimeout a q => (a, q) = k
  | _ => False

/-- **the retained response survives every event that is not its own**: requests from other peers or with other sequence
    numbers (whatever they do — establish, modify, delete, re-associate), their duplicates, responses of any kind, expiries of
    any other timer, reports — none touches the entry of `k` -/
theorem retained_untouched (st : State) (k : String × BitVec 24) (e : Event) (env : Env) (hk : ¬ Event.concerns k e) :
    alGet (step st e env).1.rx k = alGet st.rx k := by
  have h := step_footprint st e env
  cases e with
  | request a q r => exact h.1 k (fun hc => hk hc.symm)
  | rxTimeout a q => exact h.1 k (fun hc => hk hc.symm)
  | report x items => rw [h]
  | _ => rw [h.1] -- responses, transmit expiries, `ignored`: the receive table is as it was

/-- … hence after ANY history of such events the entry is what it was, and a copy of the request arriving then is answered
    with the very response the first copy got, without being executed again -/
theorem dup_after_any_history (h : List (Event × Env)) (st : State) (k : String × BitVec 24)
    (hk : ∀ p ∈ h, ¬ Event.concerns k p.1) :
    alGet (h.foldl (fun st (p : Event × Env) => (step st p.1 p.2).1) st).rx k = alGet st.rx k :=
  foldl_fixed _ (fun st => alGet st.rx k) h (fun p hp st => retained_untouched st k p.1 p.2 (hk p hp)) st

/-! ### retention window arithmetic (transaction.go:122-138) -/

/-- `RetransTimeout * (time.Duration(MaxRetrans) + 1)`: `MaxRetrans` is a `uint8`, widened before the addition -/
def retention (t : Int) (n : BitVec 8) : Int := t * ((n.toNat : Int) + 1)

theorem retention_exact (t : Int) (n : BitVec 8) : retention t n = t * (n.toNat + 1) := rfl

/-- the window is never shorter than one timeout, for every accepted configuration value -/
theorem retention_pos (t : Int) (n : BitVec 8) (ht : 0 < t) : t ≤ retention t n := by
  unfold retention
  have h : (1 : Int) ≤ (n.toNat : Int) + 1 := by omega
  calc t = t * 1 := by simp
    _ ≤ t * ((n.toNat : Int) + 1) := Int.mul_le_mul_of_nonneg_left h (Int.le_of_lt ht)

/-- the computation before the `fix:` commit added in `uint8`: for the accepted value 255 the factor was 0 -/
def retentionOld (t : Int) (n : BitVec 8) : Int := t * ((n + 1).toNat : Int)
example : retentionOld 3000 255#8 = 0 := by decide
example : retention 3000 255#8 = 768000 := by decide

/-! ### non-vacuity: a concrete duplicate -/
example :
    let st0 : State := {}
    let (st1, o1) := step st0 (.request "p1" 7 .heartbeat) {}
    let (st2, o2) := step st1 (.request "p1" 7 .heartbeat) {}
    let (_, o3) := step st2 (.request "p2" 7 .heartbeat) {}
    o1 = o2 ∧ o1.length = 1 ∧ st2.rx.length = 1 ∧ o3.length = 1 ∧ o3 ≠ o1 := by decide

end UpfVerif.C06
