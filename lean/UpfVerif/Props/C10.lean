/-
C10 — usage reports reach the owning SMF with the measured values intact.

Over `Core.serveReport` / `Core.emitOne` (report.go:15-58, 92-124; report/report.go:75-145), for every state,
every batch and every measured value:
 * `usage_batch_delivery`: a batch of usage reports for a live session whose node id resolves is answered by exactly
   one Session Report Request, sent to the node's address, with header SEID = the peer's SEID of that session,
   report type USAR, carrying the emission-loop IEs of the batch in order;
 * `ie_exact`: each IE carries the report's URR id and trigger word unchanged and the measured values unchanged
   (six counters, start/end, duration), with the measurement IEs selected by the URR's measurement method and
   information: Volume Measurement iff VOLUM (packet counters flagged iff MNOP), Duration iff DURAT, start/end
   absent exactly for START / STOPT / MACAR triggers;
 * `unknown_urr_dropped`, `unknown_session_dropped`: reports for unknown URRs / sessions are dropped and the rest
   of the batch is unaffected (C11 `other_urr_untouched`).
 * `groups_*` (the kernel's REPORT multicast, M-Krep): for EVERY message — any number of reports, sessions interleaved in any
   way — each session that has a report gets exactly one notification (`groups_keys_nodup`, `mem_seids`), carrying exactly
   its own reports in message order (`groups_own`), nothing is lost or duplicated (`groups_total`), and what a session
   gets does not depend on the other sessions' reports (`groupOf_other`) nor on the order of notification.
`dest_total`, `non_ipv4_node_falls_back`: the destination is "<node id>:8805" resolved as udp4; for IPv6 or FQDN node ids
(which do not resolve) the report goes to the address the node associated from — before the `fix:` commit it was dropped.
-/
import UpfVerif.Model.Core
import UpfVerif.Model.Krep
import UpfVerif.Lemmas.Core
import UpfVerif.Props.C11
import UpfVerif.Lemmas.CoreHandlers

namespace UpfVerif.C10
open UpfVerif.Core

theorem unknown_session_dropped (st : State) (x : Seid) (items : List RepItem) (c : Ctx)
    (h : st.lnode.lookup x = none) : serveReport st x items c = (st, c) := by
  simp [serveReport, h]

/-- every node has a destination: the IPv4 node id's address, or — for an IPv6 / FQDN node id, which does not resolve as
    udp4 — the address the node associated from (the `fix:` commit: such reports used to be dropped, and the buffered
    packet with them) -/
theorem dest_total (n : RNode) : ∃ d, reportDest n = some d := by
  unfold reportDest
  cases n.id <;> exact ⟨_, rfl⟩

theorem non_ipv4_node_falls_back (n : RNode) (h : ∀ p, n.id ≠ .v4 p) : reportDest n = some n.addr := by
  unfold reportDest
  cases hid : n.id with
  | v4 p => exact absurd hid (h p)
  | v6 _ => rfl
  | fqdn _ => rfl

theorem serveLoop_usars (x : Seid) (dest : String) (rs : List Report) (st : State) (c : Ctx) (us : List Report) :
    serveLoop x dest (rs.map RepItem.usar) st c us = (st, c, some (us ++ rs)) := by
  induction rs generalizing us with
  | nil => simp [serveLoop]
  | cons r rs ih => simp [serveLoop, ih, List.append_assoc]

/-- a non-empty batch of usage reports for a live session of a resolvable node: exactly one Session Report
    Request to the owner, addressed with the peer's SEID, carrying the emitted IEs in order -/
theorem usage_batch_delivery (st : State) (x : Seid) (rs : List Report) (c : Ctx) (s : Sess) (dest : String)
    (h : st.lnode.lookup x = some s) (hd : reportDest (st.nodes.getD s.rnode default) = some dest)
    (hne : rs ≠ []) :
    (serveReport st x (rs.map RepItem.usar) c).2.outs =
      c.outs ++ [Out.send dest { kind := .srReq, seq := st.txSeq.setWidth 24, seid := some s.remoteID,
                                 rtype := some 2, usars := (emitUsars s rs 0 false).2 }] := by
  unfold serveReport
  simp only [h, hd, serveLoop_usars, List.nil_append]
  have : rs.isEmpty = false := by cases rs <;> simp_all
  simp [this, State.sendReq, Ctx.emit, State.setSess]

theorem usarOf_from (r : Report) (x : BitVec 32) (info : URRInfo) :
    (usarOf r x info).urr = r.urr ∧ (usarOf r x info).trig = r.trig ||| x ∧
    (∀ f cs, (usarOf r x info).vol = some (f, cs) → cs = r.meas.take 6) ∧ (∀ d, (usarOf r x info).dur = some d → d = r.meas.getD 8 0) ∧
    (∀ a b', (usarOf r x info).times = some (a, b') → a = r.meas.getD 6 0 ∧ b' = r.meas.getD 7 0) := by
  -- each measurement IE is `if … then some v else none` (times: `if … then none else some v`): where present it is that `v`
  refine ⟨rfl, rfl, fun f cs hv => ?_, fun d hd => ?_, fun a b' ht => ?_⟩
  · cases (Option.some.inj (Option.ite_none_right_eq_some.mp hv).2); rfl
  · cases (Option.some.inj (Option.ite_none_right_eq_some.mp hd).2); rfl
  · cases (Option.some.inj (Option.ite_none_left_eq_some.mp ht).2); exact ⟨rfl, rfl⟩

/-- content of one usage-report IE: ids, trigger and measured values are the report's own; the measurement IEs are
    selected by the URR's method / information -/
theorem ie_exact (s : Sess) (r : Report) (info : URRInfo) (h : alGet s.urrs r.urr = some info) :
    ∃ ie, (emitOne s r 0 false).2 = some ie ∧ ie.urr = r.urr ∧ ie.trig = r.trig ∧
      (ie.vol.isSome = info.volum) ∧ (∀ f cs, ie.vol = some (f, cs) → cs = r.meas.take 6 ∧ f = (if info.mnop then 0x3f#8 else 0x07#8)) ∧
      (ie.dur = if info.durat then some (r.meas.getD 8 0) else none) ∧
      (∀ a b, ie.times = some (a, b) → a = r.meas.getD 6 0 ∧ b = r.meas.getD 7 0) := by
  refine ⟨usarOf r 0 info, by rw [emitOne_ie, h]; rfl, rfl, BitVec.or_zero, ?_, fun f cs hv => ?_, rfl, (usarOf_from r 0 info).2.2.2.2⟩
  · show (if info.volum then some _ else none).isSome = _
    cases info.volum <;> rfl
  · cases (Option.some.inj (Option.ite_none_right_eq_some.mp hv).2); exact ⟨rfl, rfl⟩

/-! ### where a report goes: every datagram `ServeReport` sends — downlink-data notifications and the usage batch, in any
mixture — goes to the one destination worked out for the reporting session's node -/

def OnlyTo (dest : String) (c c' : Ctx) : Prop :=
  ∃ l, c'.outs = c.outs ++ l ∧ ∀ o ∈ l, ∀ to m, o = Out.send to m → to = dest

theorem sendReq_onlyTo (st : State) (dest : String) (m : Msg) (c : Ctx) : OnlyTo dest c (st.sendReq dest m c).2 := by
  refine ⟨[Out.send dest { m with seq := st.txSeq.setWidth 24 }], by simp [State.sendReq, Ctx.emit], ?_⟩
  intro o ho to m' he
  simp only [List.mem_singleton] at ho
  subst ho
  cases he
  rfl

/-- **destination**: whatever the notification carries — any number of downlink-data reports and usage reports, in any
    order — every datagram it causes goes to the destination of the node that owns the reporting session at that moment
    (`reportDest`: the IPv4 node id's address, else the address that node associated from); none goes anywhere else -/
theorem report_goes_to_owner (st : State) (x : Seid) (items : List RepItem) (c : Ctx) (s : Sess) (dest : String)
    (h : st.lnode.lookup x = some s) (hd : reportDest (st.nodes.getD s.rnode default) = some dest) :
    OnlyTo dest c (serveReport st x items c).2 := by
  refine serveReport_keep (fun _ c' => OnlyTo dest c c') x (fun _ _ _ _ _ hp => hp) (fun _ _ _ _ _ hp => hp) st ?_ items c
    (Added.refl _ c)
  -- the only destination `ServeReport` sends to is the one it works out on entry, and that is `dest`
  intro s0 d hs0 hd0 st' c' m hp
  rw [h] at hs0
  cases hs0
  rw [hd] at hd0
  cases hd0
  exact Added.trans hp (sendReq_onlyTo st' dest m c')

/-- after a takeover by an IPv4 node id the reports of the node's sessions go to the NEW owner — the destination is worked
    out per report from the node's current id, nothing is remembered from before -/
theorem after_takeover_new_owner (st : State) (h : Nat) (p : String) (hh : h < st.nodes.length) :
    reportDest ((st.takeover (some (.v4 p)) h).nodes.getD h default) = some p := by
  simp [State.takeover, State.updateNodeID, State.modNode, reportDest, List.getD, hh]

/-- the takeover finding (C05 `takeoverNode`) as it shows here: a takeover by an IPv6 / FQDN node id renames the OLD node
    object, which keeps the address the old node associated from — that is where the reports keep going -/
theorem after_takeover_non_ipv4_old_address (st : State) (h : Nat) (nid : NodeId) (hn : ∀ p, nid ≠ .v4 p)
    (hh : h < st.nodes.length) :
    reportDest ((st.takeover (some nid) h).nodes.getD h default) = some (st.nodes.getD h default).addr := by
  have hm : ((st.takeover (some nid) h).nodes.getD h default) = { (st.nodes.getD h default) with id := nid } := by
    simp [State.takeover, State.updateNodeID, State.modNode, List.getD, hh]
  rw [hm]
  exact non_ipv4_node_falls_back _ hn

/-- an Update URR changes what it carries and nothing else: with the method alone the recorded MNOP stays, with the
    information alone the recorded method stays, with neither nothing changes — so later reports keep the IE selection the
    SMF last asked for -/
theorem update_keeps_absent (info : URRInfo) (ie : RuleIE) :
    (ie.meth = none → (info.applyUpdate ie).durat = info.durat ∧ (info.applyUpdate ie).volum = info.volum) ∧
    (ie.mnop = none → (info.applyUpdate ie).mnop = info.mnop) ∧
    (∀ d v, ie.meth = some (d, v) → (info.applyUpdate ie).durat = d ∧ (info.applyUpdate ie).volum = v) ∧
    (∀ m, ie.mnop = some m → (info.applyUpdate ie).mnop = m) := by
  unfold URRInfo.applyUpdate
  refine ⟨?_, ?_, ?_, ?_⟩
  · intro h; rw [h]; cases ie.mnop <;> exact ⟨rfl, rfl⟩
  · intro h; rw [h]; cases ie.meth <;> rfl
  · intro d v h; rw [h]; cases ie.mnop <;> exact ⟨rfl, rfl⟩
  · intro m h; rw [h]

/-- **a message carrying several usage reports**: every usage-report IE in it was made from one of the reports handed over
    — its own URR id, its own trigger word (plus the carrier's flag, nothing of a neighbour's), its own counters, times
    and duration — whatever the number of reports, their order, and the URRs they name -/
theorem each_ie_from_its_report (rs : List Report) (x : BitVec 32) (b : Bool) : ∀ (s : Sess) (ie : UsarIE),
    ie ∈ (emitUsars s rs x b).2 →
    ∃ r ∈ rs, ie.urr = r.urr ∧ ie.trig = r.trig ||| x ∧
      (∀ f cs, ie.vol = some (f, cs) → cs = r.meas.take 6) ∧ (∀ d, ie.dur = some d → d = r.meas.getD 8 0) ∧
      (∀ a b', ie.times = some (a, b') → a = r.meas.getD 6 0 ∧ b' = r.meas.getD 7 0) := by
  intro s ie h
  obtain ⟨l, hs, he⟩ := emitUsars_ies rs x b s
  rw [he] at h
  obtain ⟨p, hp, rfl⟩ := List.mem_map.mp h
  exact ⟨p.1, hs.subset (List.mem_map_of_mem hp), usarOf_from p.1 x p.2⟩

/-- … and no more IEs than reports -/
theorem ies_le_reports (rs : List Report) (x : BitVec 32) (b : Bool) : ∀ (s : Sess), (emitUsars s rs x b).2.length ≤ rs.length := by
  intro s
  obtain ⟨l, hs, he⟩ := emitUsars_ies rs x b s
  rw [he, List.length_map, ← List.length_map (·.1)]
  exact hs.length_le

/-- start / end time are left out exactly for the START, STOPT and MACAR triggers -/
theorem times_absent_iff (s : Sess) (r : Report) (info : URRInfo) (h : alGet s.urrs r.urr = some info) :
    ∀ ie, (emitOne s r 0 false).2 = some ie →
      (ie.times = none ↔ ((r.trig &&& BitVec.ofNat 32 Gen.report.USAR_TRIG_START != 0) ||
                           (r.trig &&& BitVec.ofNat 32 Gen.report.USAR_TRIG_STOPT != 0) ||
                           (r.trig &&& BitVec.ofNat 32 Gen.report.USAR_TRIG_MACAR != 0)) = true) := by
  intro ie hie
  rw [emitOne_ie, h] at hie
  cases hie
  show (if _ then none else some _) = none ↔ _
  rw [show r.trig ||| 0 = r.trig from BitVec.or_zero]
  split <;> rename_i hc
  · exact ⟨fun _ => hc, fun _ => rfl⟩
  · exact ⟨fun e => (by cases e), fun e => absurd e hc⟩

theorem unknown_urr_dropped (s : Sess) (r : Report) (h : alGet s.urrs r.urr = none) :
    emitOne s r 0 false = (s, none) := C11.emit_unknown s r 0 false h

/-! ### the REPORT multicast: grouping by session -/
section Grouping
open UpfVerif.Krep
variable {α : Type}

/-- one notification per session -/
theorem groups_keys_nodup (items : List (Nat × α)) : ((groups items).map (·.1)).Nodup := by
  have : (groups items).map (·.1) = seids items := by
    simp [groups, List.map_map, Function.comp_def]
  rw [this]; exact Core.nodup_eraseDups _

/-- exactly the sessions that have a report in the message are notified -/
theorem mem_seids (items : List (Nat × α)) (x : Nat) : x ∈ seids items ↔ ∃ r, (x, r) ∈ items := by
  unfold seids
  rw [List.mem_eraseDups, List.mem_map]
  constructor
  · rintro ⟨p, hp, rfl⟩; exact ⟨p.2, hp⟩
  · rintro ⟨r, hr⟩; exact ⟨(x, r), hr, rfl⟩

/-- each notification carries exactly its session's reports, in message order — and is not empty -/
theorem groups_own (items : List (Nat × α)) (x : Nat) (g : List α) (h : (x, g) ∈ groups items) :
    g = groupOf items x ∧ g ≠ [] := by
  unfold groups at h
  obtain ⟨y, hy, e⟩ := List.mem_map.mp h
  simp only [Prod.mk.injEq] at e
  obtain ⟨rfl, rfl⟩ := e
  refine ⟨rfl, ?_⟩
  obtain ⟨r, hr⟩ := (mem_seids items y).mp hy
  intro he
  have : r ∈ groupOf items y := by
    unfold groupOf
    exact List.mem_map.mpr ⟨(y, r), List.mem_filter.mpr ⟨hr, by simp⟩, rfl⟩
  rw [he] at this; cases this

/-- a session's notification is a function of its own reports only: adding, removing or re-ordering other sessions'
    reports (known or unknown sessions alike) does not change it -/
theorem groupOf_other (items : List (Nat × α)) (x : Nat) :
    groupOf items x = groupOf (items.filter (·.1 == x)) x := by
  unfold groupOf
  rw [List.filter_filter]
  congr 1
  apply List.filter_congr
  intro p _; simp

theorem sum_groups_aux (L : List Nat) (hn : L.Nodup) : ∀ (items : List (Nat × α)), (∀ p ∈ items, p.1 ∈ L) →
    (L.map fun x => (groupOf items x).length).sum = items.length := by
  induction L with
  | nil =>
    intro items hc
    cases items with
    | nil => rfl
    | cons p _ => exact nomatch hc p List.mem_cons_self
  | cons x L ih =>
    intro items hc
    rw [List.nodup_cons] at hn
    -- the reports of `x`, and the rest: the rest is covered by `L`, and has the same groups for the sessions in `L`
    have hrest := ih hn.2 (items.filter (·.1 != x)) (fun p hp => by
      have := List.mem_filter.mp hp
      exact (List.mem_cons.mp (hc p this.1)).resolve_left (by simpa using this.2))
    have hsame : (L.map fun y => (groupOf (items.filter (·.1 != x)) y).length) = L.map fun y => (groupOf items y).length := by
      apply List.map_congr_left
      intro y hy
      have : y ≠ x := fun e => hn.1 (e ▸ hy)
      simp only [groupOf, List.filter_filter]
      congr 3
      funext p
      by_cases hp : p.1 = y <;> simp [hp, this]
    rw [List.map_cons, List.sum_cons, ← hsame, hrest, groupOf, List.length_map,
      List.length_eq_countP_add_countP (·.1 == x) (l := items), List.countP_eq_length_filter, List.countP_eq_length_filter]
    congr 3
    funext p
    by_cases h : p.1 = x <;> simp [h]

/-- nothing is lost, nothing is delivered twice: the notifications together carry as many reports as the message -/
theorem groups_total (items : List (Nat × α)) : ((groups items).map (·.2.length)).sum = items.length := by
  have e : (groups items).map (·.2.length) = (seids items).map fun x => (groupOf items x).length := by
    simp [groups, List.map_map, Function.comp_def]
  rw [e]
  exact sum_groups_aux _ (Core.nodup_eraseDups _) items fun p hp => (mem_seids items p.1).mpr ⟨p.2, hp⟩

example : groups [(5, "a"), (9, "b"), (5, "c"), (7, "d"), (9, "e")] = [(5, ["a", "c"]), (9, ["b", "e"]), (7, ["d"])] := by
  decide

end Grouping

/-! ### non-vacuity -/
example :
    let st0 : State := {}
    let (st1, _) := step st0 (.request "p1" 1 (.assoc (some (.v4 "p1")))) {}
    let u3 : RuleIE := { id := some 3, meth := some (false, true), mnop := some true }
    let req : EstReq := { nodeID := some (.v4 "p1"), cpSeid := some 0x55#64, urr := [u3] }
    let (st2, _) := step st1 (.request "p1" 2 (.est req)) { pending := [(default, { ok := true })] }
    let rep : Report := { urr := 3, trig := 2, meas := [1, 2, 3, 4, 5, 6, 100, 200, 9] }
    let (_, o3) := step st2 (.report 1 [.usar rep, .usar { rep with urr := 4 }]) {}
    let ie3 : UsarIE := { urr := 3, seqn := 0, trig := 2, times := some (100, 200), vol := some (0x3f#8, [1, 2, 3, 4, 5, 6]), dur := none }
    o3 = [Out.send "p1" { kind := .srReq, seq := 0, seid := some 0x55#64, rtype := some 2, usars := [ie3] }] := by
  decide

end UpfVerif.C10
